import AisVerif.Model.Sentence
import AisVerif.Model.Cli
import AisVerif.Refine.Dispatch
import AisVerif.Lemmas.Decoded
import AisVerif.Lemmas.Armor
import AisVerif.Props.C01
import AisVerif.Props.C02
import AisVerif.Props.C03
import AisVerif.Props.C04
import AisVerif.Props.C05
import AisVerif.Props.C06
import AisVerif.Props.C07
import AisVerif.Props.C08
import AisVerif.Props.C09
import AisVerif.Props.C10
import AisVerif.Props.C11
import AisVerif.Props.C12
import AisVerif.Props.C13
import AisVerif.Props.C14
import AisVerif.Props.C15
import AisVerif.Props.C16
import AisVerif.Props.C17
import AisVerif.Props.C18
import AisVerif.Props.C19
import AisVerif.Props.C20
