/-
  Armoring (the encoder side of C03) and the round trip `unarmor ∘ armor`.
-/
import AisVerif.Lemmas.Unarmor
import AisVerif.Spec.Armor

namespace AisVerif

theorem sixbit_armorChar (v : Nat) (h : v < 64) : Spec.sixbit (Spec.armorChar v) = some v :=
  (by decide +kernel : ∀ v : Fin 64, Spec.sixbit (Spec.armorChar v.val) = some v.val) ⟨v, h⟩

theorem armor_fst (bs : List UInt8) (nbits : Nat) :
    (Spec.armor bs nbits).1 =
      (List.range ((nbits + 5) / 6)).map fun k => Spec.armorChar (Spec.field bs (6 * k) 6) := rfl

theorem armor_snd (bs : List UInt8) (nbits : Nat) :
    (Spec.armor bs nbits).2 = 6 * ((nbits + 5) / 6) - nbits := rfl

theorem armor_length (bs : List UInt8) (nbits : Nat) :
    (Spec.armor bs nbits).1.length = (nbits + 5) / 6 := by
  rw [armor_fst, List.length_map, List.length_range]

theorem armor_getElem? (bs : List UInt8) (nbits k : Nat) (hk : k < (nbits + 5) / 6) :
    (Spec.armor bs nbits).1[k]? = some (Spec.armorChar (Spec.field bs (6 * k) 6)) := by
  rw [armor_fst, List.getElem?_map, List.getElem?_range hk]
  rfl

theorem armor_allArmored (bs : List UInt8) (nbits : Nat) : AllArmored (Spec.armor bs nbits).1 := by
  intro c hc
  rw [armor_fst] at hc
  obtain ⟨k, _, rfl⟩ := List.mem_map.mp hc
  rw [sixbit_armorChar _ (field_lt bs (6 * k) 6)]
  rfl

theorem armor_fill_le (bs : List UInt8) (nbits : Nat) : (Spec.armor bs nbits).2 ≤ 5 := by
  rw [armor_snd]; omega

theorem le_armor_bits (nbits : Nat) : nbits ≤ 6 * ((nbits + 5) / 6) := by omega

theorem armor_bits (bs : List UInt8) (nbits : Nat) :
    6 * (Spec.armor bs nbits).1.length - (Spec.armor bs nbits).2 = nbits := by
  rw [armor_length, armor_snd, Nat.sub_sub_self (le_armor_bits nbits)]

theorem armoredBit_armor (bs : List UInt8) (nbits i : Nat) (h : i < 6 * ((nbits + 5) / 6)) :
    Spec.armoredBit (Spec.armor bs nbits).1 i = Spec.bit bs i := by
  unfold Spec.armoredBit
  rw [armor_getElem? bs nbits (i / 6) (Nat.div_lt_of_lt_mul h)]
  simp only [sixbit_armorChar _ (field_lt bs (6 * (i / 6)) 6)]
  have h := field_bit bs (6 * (i / 6)) 6 (i % 6) (Nat.mod_lt _ (by decide))
  rwa [Nat.div_add_mod] at h

theorem unarmor_armor (cfg : Cfg) (bs : List UInt8) (nbits : Nat)
    (hsz : ¬ TooLarge cfg ((nbits + 5) / 6)) :
    ∃ out, unarmor cfg (Spec.armor bs nbits).1 (Spec.armor bs nbits).2 = ok out ∧
      out.length = Spec.unarmorLen ((nbits + 5) / 6) ∧
      ∀ i, Spec.bit out i = if i < nbits then Spec.bit bs i else 0 := by
  obtain ⟨out, e, hl, hb⟩ := unarmor_ok cfg (Spec.armor bs nbits).1 (Spec.armor bs nbits).2
    (armor_fill_le bs nbits) (armor_allArmored bs nbits) (by rw [armor_length]; exact hsz)
  refine ⟨out, e, by rw [hl, armor_length], fun i => ?_⟩
  rw [hb i, armor_bits]
  exact ite_congr rfl (fun hi => armoredBit_armor bs nbits i (Nat.lt_of_lt_of_le hi (le_armor_bits nbits)))
    fun _ => rfl

/-- Armoring all of `bs` and unarmoring gives `bs` back, followed by at most one zero byte
    (present whenever `bs.length % 3 ≠ 0`: the last character then carries 2 or 4 bits of `bs`, and `6 · chars` bits
    reach into one more byte). -/
theorem unarmor_armor_padded (cfg : Cfg) (bs : List UInt8)
    (hsz : ¬ TooLarge cfg ((8 * bs.length + 5) / 6)) :
    unarmor cfg (Spec.armor bs (8 * bs.length)).1 (Spec.armor bs (8 * bs.length)).2 =
      ok (bs ++ List.replicate (Spec.unarmorLen ((8 * bs.length + 5) / 6) - bs.length) 0) := by
  obtain ⟨out, e, hl, hb⟩ := unarmor_armor cfg bs (8 * bs.length) hsz
  rw [e]
  congr 1
  apply eq_of_bit_eq
  · rw [hl, List.length_append, List.length_replicate,
      Nat.add_sub_cancel' (by unfold Spec.unarmorLen; omega)]
  · intro i
    rw [hb i, bit_append_zeros]
    by_cases hi : i < 8 * bs.length
    · rw [if_pos hi]
    · rw [if_neg hi, bit_ge bs i (Nat.not_lt.mp hi)]

theorem unarmor_pad_le_one (n : Nat) : Spec.unarmorLen ((8 * n + 5) / 6) - n ≤ 1 := by
  unfold Spec.unarmorLen; omega

theorem unarmor_armor_exact (cfg : Cfg) (bs : List UInt8)
    (hlen : Spec.unarmorLen ((8 * bs.length + 5) / 6) = bs.length)
    (hsz : ¬ TooLarge cfg ((8 * bs.length + 5) / 6)) :
    unarmor cfg (Spec.armor bs (8 * bs.length)).1 (Spec.armor bs (8 * bs.length)).2 = ok bs := by
  rw [unarmor_armor_padded cfg bs hsz, hlen, Nat.sub_self]
  simp

theorem not_tooLarge_small (cfg : Cfg) (n : Nat) (h : Spec.unarmorLen n ≤ maxSentence) :
    ¬ TooLarge cfg n := fun hl => Nat.lt_irrefl _ (Nat.lt_of_lt_of_le hl.2 h)

example : Spec.armor [0b00100100] 6 = ([0x39], 0) := by decide +kernel
example : Spec.armor [0xff] 8 = ([0x77, 0x68], 4) := by decide +kernel
example : Spec.armor [0x04, 0x20, 0xc4] 24 = ([0x31, 0x32, 0x33, 0x34], 0) := by decide +kernel

/-- a 3-byte list round-trips exactly, in every build -/
example (cfg : Cfg) :
    unarmor cfg (Spec.armor [0x12, 0xab, 0xff] 24).1 (Spec.armor [0x12, 0xab, 0xff] 24).2
      = ok [0x12, 0xab, 0xff] :=
  unarmor_armor_exact cfg [0x12, 0xab, 0xff] (by decide) (not_tooLarge_small cfg _ (by decide))

/-- a 21-byte list (168 bits = 28 characters, a type 1/2/3 message) round-trips exactly -/
example (cfg : Cfg) (b0 b1 b2 b3 b4 b5 b6 b7 b8 b9 b10 b11 b12 b13 b14 b15 b16 b17 b18 b19 b20 : UInt8) :
    let bs := [b0, b1, b2, b3, b4, b5, b6, b7, b8, b9, b10, b11, b12, b13, b14, b15, b16, b17, b18, b19, b20]
    unarmor cfg (Spec.armor bs 168).1 (Spec.armor bs 168).2 = ok bs := by
  intro bs
  have hL : bs.length = 21 := rfl
  exact unarmor_armor_exact cfg bs (by rw [hL]; decide) (not_tooLarge_small cfg _ (by rw [hL]; decide))

/-- a 1-byte list comes back with one padding byte (8 bits = 2 characters = 12 bits = 2 bytes) -/
example (cfg : Cfg) (b : UInt8) :
    unarmor cfg (Spec.armor [b] 8).1 (Spec.armor [b] 8).2 = ok [b, 0] := by
  have h := unarmor_armor_padded cfg [b] (not_tooLarge_small cfg _ (by rw [List.length_singleton]; decide))
  rwa [List.length_singleton] at h

end AisVerif
