import Lean.Meta.Tactic.Simp.RegisterCommand
import Lean.Meta.Tactic.Simp.BuiltinSimprocs.Nat
/-- Rewriting lemmas that turn bit-level reads into `if k ≤ 8 * len` tests. -/
register_simp_attr ais_take
