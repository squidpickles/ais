/-
  The specification's `bit` and `field`: a field as the number with given binary digits (`bitsVal`), the
  bits of a byte list under `::`, `take`, `drop`, and nom's `take` loop (Model/Bits.lean) as `field`.
-/
import AisVerif.Model.Bits
import AisVerif.Spec.Bits

namespace AisVerif
open Spec

theorem bit_lt (bs : List UInt8) (i : Nat) : bit bs i < 2 := Nat.mod_lt _ (by decide)

/-- The number whose `w` binary digits, most significant first, are `g 0 … g (w - 1)`: what
    `field` computes from the bits of a byte string and `packBits` from a bit stream. -/
def bitsVal (g : Nat → Nat) : Nat → Nat
  | 0 => 0
  | w + 1 => 2 * bitsVal g w + g w

theorem field_eq_bitsVal (bs : List UInt8) (p w : Nat) :
    field bs p w = bitsVal (fun k => bit bs (p + k)) w := by
  induction w with
  | zero => rfl
  | succ w ih => rw [field, bitsVal, ih]

theorem foldl_eq_bitsVal (g : Nat → Nat) (w : Nat) :
    (List.range w).foldl (fun acc k => 2 * acc + g k) 0 = bitsVal g w := by
  induction w with
  | zero => rfl
  | succ w ih => rw [List.range_succ, List.foldl_append, ih]; rfl

theorem bitsVal_lt {g : Nat → Nat} (hg : ∀ k, g k < 2) (w : Nat) : bitsVal g w < 2 ^ w := by
  induction w with
  | zero => exact Nat.one_pos
  | succ w ih => have := hg w; rw [bitsVal, Nat.pow_succ]; omega

theorem pred_sub_add_one {j w : Nat} (h : j < w) : w - 1 - j + 1 = w - j := by
  rw [Nat.sub_right_comm, Nat.sub_add_cancel (Nat.sub_pos_of_lt h)]

theorem bitsVal_digit {g : Nat → Nat} (hg : ∀ k, g k < 2) (w j : Nat) (h : j < w) :
    bitsVal g w / 2 ^ (w - 1 - j) % 2 = g j := by
  induction w with
  | zero => cases h
  | succ w ih =>
    rw [bitsVal, Nat.add_sub_cancel]
    rcases Nat.lt_succ_iff_lt_or_eq.mp h with hj | rfl
    · rw [← pred_sub_add_one hj, Nat.pow_succ', ← Nat.div_div_eq_div_mul,
        Nat.mul_add_div (by decide), Nat.div_eq_of_lt (hg w), Nat.add_zero]
      exact ih hj
    · rw [Nat.sub_self, Nat.pow_zero, Nat.div_one, Nat.mul_add_mod, Nat.mod_eq_of_lt (hg j)]

/-- Conversely, digits read off a number `N` (from its bit `e` upwards) give back that part of `N`. -/
theorem bitsVal_eq {g : Nat → Nat} (N w : Nat) :
    ∀ e, (∀ j, j < w → g j = N / 2 ^ (e + (w - 1 - j)) % 2) → bitsVal g w = N / 2 ^ e % 2 ^ w := by
  induction w with
  | zero => intro e _; rw [bitsVal, Nat.pow_zero, Nat.mod_one]
  | succ w ih =>
    intro e h
    have h0 := h w (Nat.lt_succ_self w)
    rw [Nat.add_sub_cancel, Nat.sub_self, Nat.add_zero] at h0
    rw [bitsVal, h0, ih (e + 1) fun j hj => by
      rw [h j (Nat.lt_succ_of_lt hj), Nat.add_sub_cancel, ← pred_sub_add_one hj, Nat.add_right_comm, Nat.add_assoc]]
    rw [Nat.pow_succ, Nat.pow_succ' (n := w), Nat.mod_mul (a := 2), Nat.div_div_eq_div_mul]
    exact Nat.add_comm ..

/-- A field whose bits are the binary digits of `v` reads as `v`. -/
theorem field_of_bits (bs : List UInt8) (off w v : Nat) (hv : v < 2 ^ w)
    (hb : ∀ k, k < w → bit bs (off + k) = (v / 2 ^ (w - 1 - k)) % 2) :
    field bs off w = v := by
  rw [field_eq_bitsVal, bitsVal_eq v w 0 fun k hk => (hb k hk).trans (by rw [Nat.zero_add]), Nat.pow_zero,
    Nat.div_one, Nat.mod_eq_of_lt hv]

theorem field_lt (bs : List UInt8) (p w : Nat) : field bs p w < 2 ^ w := by
  rw [field_eq_bitsVal]; exact bitsVal_lt (fun _ => bit_lt _ _) w

theorem field_bit (bs : List UInt8) (p w j : Nat) (hj : j < w) :
    field bs p w / 2 ^ (w - 1 - j) % 2 = bit bs (p + j) := by
  rw [field_eq_bitsVal]; exact bitsVal_digit (fun _ => bit_lt _ _) w j hj

theorem bit_head (b : UInt8) (l : List UInt8) (i : Nat) (h : i < 8) :
    bit (b :: l) i = b.toNat / 2 ^ (7 - i) % 2 := by
  unfold bit
  rw [Nat.div_eq_of_lt h, Nat.mod_eq_of_lt h]; rfl

theorem bit_cons (b : UInt8) (l : List UInt8) (i : Nat) : bit (b :: l) (i + 8) = bit l i := by
  unfold bit
  rw [Nat.add_div_right i (by decide), Nat.add_mod_right, List.getElem?_cons_succ]

theorem bit_take (l : List UInt8) (k i : Nat) (h : i < 8 * k) : bit (l.take k) i = bit l i := by
  unfold bit
  rw [List.getElem?_take_of_lt (Nat.div_lt_of_lt_mul h)]

theorem bit_drop (l : List UInt8) (j i : Nat) : bit (l.drop j) i = bit l (8 * j + i) := by
  unfold bit
  rw [List.getElem?_drop, Nat.mul_add_div (by decide), Nat.mul_add_mod]

theorem bit_ge (l : List UInt8) (i : Nat) (h : 8 * l.length ≤ i) : bit l i = 0 := by
  have : l.length ≤ i / 8 := (Nat.le_div_iff_mul_le (by decide)).mpr (Nat.mul_comm .. ▸ h)
  rw [bit, List.getElem?_eq_none this, Option.getD_none, UInt8.toNat_zero, Nat.zero_div]

theorem bit_append_zeros (l : List UInt8) (k i : Nat) :
    bit (l ++ List.replicate k 0) i = bit l i := by
  unfold bit
  rw [List.getElem?_append]
  split
  · rfl
  · next h =>
    rw [List.getElem?_eq_none (Nat.not_lt.mp h), List.getElem?_replicate]
    split <;> rfl

theorem field_congr {a b : List UInt8} {p q w : Nat} (h : ∀ j, j < w → bit a (p + j) = bit b (q + j)) :
    field a p w = field b q w := by
  induction w with
  | zero => rfl
  | succ w ih => rw [field, field, ih fun j hj => h j (Nat.lt_succ_of_lt hj), h w (Nat.lt_succ_self w)]

theorem field_nil (p w : Nat) : field [] p w = 0 := by
  induction w with
  | zero => rfl
  | succ w ih => rw [field, ih, bit_ge [] _ (Nat.zero_le _)]

theorem field_cons (b : UInt8) (l : List UInt8) (p w : Nat) :
    field (b :: l) (p + 8) w = field l p w :=
  field_congr fun j _ => by rw [Nat.add_right_comm, bit_cons]

theorem field_take (l : List UInt8) (k p w : Nat) (h : p + w ≤ 8 * k) :
    field (l.take k) p w = field l p w :=
  field_congr fun _ hj => bit_take l k _ (Nat.lt_of_lt_of_le (Nat.add_lt_add_left hj p) h)

theorem field_drop (l : List UInt8) (j p w : Nat) :
    field (l.drop j) p w = field l (8 * j + p) w :=
  field_congr fun i _ => by rw [bit_drop, Nat.add_assoc]

theorem field_add (bs : List UInt8) (p m n : Nat) :
    field bs p (m + n) = field bs p m * 2 ^ n + field bs (p + m) n := by
  induction n with
  | zero => rw [field, Nat.add_zero, Nat.pow_zero, Nat.mul_one, Nat.add_zero]
  | succ n ih =>
    rw [← Nat.add_assoc, field, field, ih, Nat.pow_succ, Nat.mul_add, Nat.add_assoc p, Nat.add_assoc,
      Nat.mul_comm 2, Nat.mul_assoc]

theorem field_div (bs : List UInt8) (p m n : Nat) : field bs p (m + n) / 2 ^ n = field bs p m := by
  rw [field_add, Nat.add_comm, Nat.add_mul_div_right _ _ (Nat.two_pow_pos n), Nat.div_eq_of_lt (field_lt ..),
    Nat.zero_add]

theorem field_mod (bs : List UInt8) (p m n : Nat) : field bs p (m + n) % 2 ^ n = field bs (p + m) n := by
  rw [field_add, Nat.add_comm, Nat.add_mul_mod_self_right, Nat.mod_eq_of_lt (field_lt ..)]

theorem field_head (b : UInt8) (l : List UInt8) : field (b :: l) 0 8 = b.toNat :=
  field_of_bits _ 0 8 _ b.toNat_lt fun k hk => by rw [Nat.zero_add, bit_head b l k hk]

theorem field_byte (b : UInt8) (l : List UInt8) (off k : Nat) (h : off + k ≤ 8) :
    field (b :: l) off k = b.toNat / 2 ^ (8 - off - k) % 2 ^ k := by
  -- the byte is `off`, `k` and `e` bits
  obtain ⟨e, he⟩ := Nat.exists_eq_add_of_le h
  rw [Nat.sub_sub, he, Nat.add_sub_cancel_left, ← field_head b l, he, field_div, field_mod, Nat.zero_add]

theorem field_getElem (l : List UInt8) (k : Nat) (h : k < l.length) : field l (8 * k) 8 = l[k].toNat := by
  rw [← Nat.add_zero (8 * k), ← field_drop, List.drop_eq_getElem_cons h, field_head]

theorem eq_of_bit_eq (a b : List UInt8) (hlen : a.length = b.length)
    (h : ∀ i, bit a i = bit b i) : a = b :=
  List.ext_getElem hlen fun k h1 h2 => UInt8.toNat_inj.mp <| by
    rw [← field_getElem a k h1, ← field_getElem b k h2]
    exact field_congr fun j _ => h _

/-- No hypothesis on the length of `l`: the loop stops at the end of the list, and `field` reads zeros there. -/
theorem takeLoop_spec (W : Nat) :
    ∀ (l : List UInt8) (off rem acc : Nat), off < 8 → rem ≤ W →
      acc + field l off rem < 2 ^ W → takeLoop W l off rem acc = ok (acc + field l off rem) := by
  intro l
  induction l with
  | nil =>
    intro off rem acc _ _ _
    rw [field_nil]
    rfl
  | cons b l ih =>
    intro off rem acc hoff hW hfin
    unfold takeLoop
    by_cases h0 : rem = 0
    · subst h0; rfl
    · -- `val` is the field of the `t = 8 - off` bits of `b` from `off` on
      obtain ⟨t, ht, ht8, ht0⟩ : ∃ t, 8 - off = t ∧ off + t = 8 ∧ 0 < t :=
        ⟨_, rfl, Nat.add_sub_cancel' (Nat.le_of_lt hoff), Nat.sub_pos_of_lt hoff⟩
      have hval : b.toNat % 2 ^ t = field (b :: l) off t := by
        rw [← field_head b l, ← ht8, field_mod, Nat.zero_add]
      simp only [h0, if_false, ht, hval]
      by_cases hlt : rem < t
      · -- the field ends inside `b`: a prefix of `val`
        obtain ⟨d, rfl⟩ := Nat.exists_eq_add_of_le (Nat.le_of_lt hlt)
        rw [if_pos hlt, Nat.add_sub_cancel_left, field_div]
        exact if_pos hfin
      · -- `val` is followed by `s` more bits, from the next byte on; no step overflows since none exceeds the result
        obtain ⟨s, rfl⟩ := Nat.exists_eq_add_of_le (Nat.not_lt.mp hlt)
        rw [field_add, ht8, ← Nat.zero_add 8, field_cons, ← Nat.add_assoc] at hfin ⊢
        have h2 := Nat.lt_of_le_of_lt (Nat.le_add_right ..) hfin
        rw [if_neg hlt, Nat.add_sub_cancel_left, shlW, if_pos (Nat.lt_of_lt_of_le (Nat.lt_add_of_pos_left ht0) hW),
          Nat.mod_eq_of_lt (Nat.lt_of_le_of_lt (Nat.le_add_left ..) h2), Res.ok_bind,
          addW, if_pos h2, Res.ok_bind, ih 0 s _ (by decide) (Nat.le_trans (Nat.le_add_left ..) hW) hfin]

/-- nom's length test, on `rest` and the offset into its first byte, is the test on absolute positions. -/
theorem take_eof_iff {n L p : Nat} (hn : 0 < n) : (L - p / 8) * 8 < n + p % 8 ↔ ¬ p + n ≤ 8 * L := by
  omega

theorem take_spec {W n : Nat} (c : Cur) (hn : 0 < n) (hW : n ≤ W) :
    take W n c = if c.pos + n ≤ 8 * c.bs.length then ok (field c.bs c.pos n, c.advance n)
                 else err (.nomError .eof) := by
  unfold take
  rw [if_neg (Nat.ne_of_gt hn)]
  simp only [Cur.rest, List.length_drop, take_eof_iff hn, ite_not]
  refine ite_congr rfl (fun _ => ?_) fun _ => rfl
  -- the `cnt + 1` bytes handed to the loop hold the whole field
  have hcnt : c.pos % 8 + n ≤ 8 * ((n + c.pos % 8) / 8 + 1) :=
    Nat.add_comm .. ▸ Nat.le_of_lt (Nat.lt_mul_div_succ _ (by decide))
  rw [takeLoop_spec W _ (c.pos % 8) n 0 (Nat.mod_lt _ (by decide)) hW
        (by rw [Nat.zero_add]; exact Nat.lt_of_lt_of_le (field_lt ..) (Nat.pow_le_pow_right (by decide) hW)),
      Res.ok_bind, Nat.zero_add, field_take _ _ _ _ hcnt, field_drop, Nat.div_add_mod]

theorem take_zero (W : Nat) (c : Cur) : take W 0 c = ok (0, c) := by
  rw [take, if_pos rfl]

end AisVerif
