/-
  `parse_ais_sentence`: exactly the bodies `AAAAA,n,k,[id],ch,payload,fill`.
-/
import AisVerif.Lemmas.Grammar
import AisVerif.Lemmas.Take

namespace AisVerif
open Spec

structure Body where
  talker : Bytes
  report : Bytes
  nf : Bytes
  fn : Bytes
  id : Bytes
  ch : Bytes
  payload : Bytes
  fill : Bytes

def comma : Bytes := [0x2C]

def Body.render (b : Body) : Bytes :=
  b.talker ++ (b.report ++ (comma ++ (b.nf ++ (comma ++ (b.fn ++ (comma ++ (b.id ++ (comma ++ (b.ch ++ (comma ++
    (b.payload ++ (comma ++ b.fill))))))))))))

structure Body.WF (b : Body) (cfg : Cfg) : Prop where
  talker : b.talker.length = 2
  report : b.report.length = 3
  nf : b.nf ≠ [] ∧ AllDigits b.nf ∧ decVal b.nf ≤ 255
  fn : b.fn ≠ [] ∧ AllDigits b.fn ∧ decVal b.fn ≤ 255
  id : b.id = [] ∨ (AllDigits b.id ∧ decVal b.id ≤ 255)
  ch : (0x2C : UInt8) ∉ b.ch
  payload : (0x2C : UInt8) ∉ b.payload ∧ b.payload ≠ []
  fill : b.fill ≠ [] ∧ AllDigits b.fill ∧ decVal b.fill < 6
  cap : cfg = .noalloc → b.payload.length ≤ maxSentence

/-- What `parse_ais_sentence` reports for these transmitted fields (`message_type` as the crate computes it, from the
    armored payload: finding D10, C19). -/
def Body.sentence (b : Body) : Sentence :=
  { talker_id := talkerId b.talker, report_type := reportType b.report,
    num_fragments := decVal b.nf, fragment_number := decVal b.fn,
    message_id := if b.id = [] then none else some (decVal b.id),
    channel := b.ch.head?, data := b.payload, fill_bit_count := decVal b.fill,
    message_type := field b.payload 0 6, message := none }

theorem comma_noLeadDigit (rest : Bytes) : NoLeadDigit (comma ++ rest) := by
  intro d hd; cases hd; decide

theorem messageType_spec (data : Bytes) :
    messageType data = if data = [] then err (.nomError .eof) else ok (field data 0 6) := by
  unfold messageType
  rw [take_bind data 0 _ (by decide) (by decide)]
  cases data with
  | nil => rfl
  | cons a l => rw [if_pos (by rw [List.length_cons]; omega), if_neg (List.cons_ne_nil a l)]

theorem messageType_eq_ok {data : Bytes} {t : Nat} : messageType data = ok t ↔ data ≠ [] ∧ field data 0 6 = t := by
  rw [messageType_spec, ite_err_eq_ok, Res.ok.injEq]

theorem Body.WF.toStd {b : Body} {cfg : Cfg} (h : b.WF cfg) : b.WF .std :=
  { h with cap := nofun }

theorem capTest_iff (cfg : Cfg) (n : Nat) :
    ¬ (cfg.isNoalloc && decide (maxSentence < n)) = true ↔ (cfg = .noalloc → n ≤ maxSentence) := by
  cases cfg <;> simp [Cfg.isNoalloc]

/-- **`parse_ais_sentence` accepts exactly the well-formed bodies**, each followed by a rest that does not
    go on with a digit, and reports the body's fields. -/
theorem parseAisSentence_eq_ok {cfg : Cfg} {i rest : Bytes} {s : Sentence} :
    parseAisSentence cfg i = ok (rest, s) ↔
      ∃ b : Body, b.WF cfg ∧ i = b.render ++ rest ∧ s = b.sentence ∧ NoLeadDigit rest := by
  unfold parseAisSentence parseAisCore
  -- One pass: the binds and `if`s are rewritten on the way down (`↓`), the combinators where they end up.
  -- Without `singlePass` simp re-enters every binder once per level, and the cost is quadratic in the chain.
  -- (`bind_eq_ok` at `Nat` only, for the message type: every other bind yields a pair and is `bind_pair_eq_ok`'s.)
  simp (config := { singlePass := true }) only [↓bind_pair_eq_ok, ↓bind_eq_ok (α := Nat), ↓ite_err_eq_ok, ↓Res.ok.injEq,
    takeBytes_eq_ok, tag_eq_ok, parseU8Digit_eq_ok, takeUntil_eq_ok, messageType_eq_ok, Prod.mk.injEq, capTest_iff]
  constructor
  · rintro ⟨_, _, h, hcap, rfl, rfl⟩
    obtain ⟨_, talker, ⟨rfl, ht⟩, _, report, ⟨rfl, hrp⟩, _, _, ⟨rfl, -⟩, h⟩ := h
    obtain ⟨_, _, ⟨nf, rfl, hnf, -, rfl⟩, _, _, ⟨rfl, -⟩, _, _, ⟨fn, rfl, hfn, -, rfl⟩, _, _, ⟨rfl, -⟩, h⟩ := h
    obtain ⟨_, _, hopt, _, _, ⟨rfl, -⟩, _, ch, ⟨rfl, hch, -⟩, _, _, ⟨rfl, -⟩, h⟩ := h
    obtain ⟨_, payload, ⟨rfl, hp, -⟩, _, _, ⟨rfl, -⟩, _, _, ⟨fill, rfl, hfill, hr, rfl⟩, hlt, _, ⟨hne, rfl⟩, rfl, rfl⟩ := h
    obtain ⟨id, rfl, hid, rfl⟩ := (optU8_eq_ok (comma_noLeadDigit _)).mp hopt
    exact ⟨⟨talker, report, nf, fn, id, ch, payload, fill⟩,
      ⟨ht, hrp, hnf, hfn, hid, hch, ⟨hp, hne⟩, ⟨hfill.1, hfill.2.1, Decidable.of_not_not hlt⟩, hcap⟩,
      by simp only [Body.render, comma, List.append_assoc], rfl, hr⟩
  · rintro ⟨b, h, rfl, rfl, hr⟩
    -- every `_` is fixed by the `rfl`s and field conditions after it; the `by simp` for the first split runs when they are
    exact ⟨_, _, ⟨_, _, ⟨by simp only [Body.render, comma, List.append_assoc], h.talker⟩, _, _, ⟨rfl, h.report⟩,
      _, _, ⟨rfl, rfl⟩, _, _, ⟨_, rfl, h.nf, comma_noLeadDigit _, rfl⟩,
      _, _, ⟨rfl, rfl⟩, _, _, ⟨_, rfl, h.fn, comma_noLeadDigit _, rfl⟩, _, _, ⟨rfl, rfl⟩,
      _, _, (optU8_eq_ok (comma_noLeadDigit _)).mpr ⟨_, rfl, h.id, rfl⟩, _, _, ⟨rfl, rfl⟩,
      _, _, ⟨rfl, h.ch, rfl⟩, _, _, ⟨rfl, rfl⟩, _, _, ⟨rfl, h.payload.1, rfl⟩, _, _, ⟨rfl, rfl⟩,
      _, _, ⟨_, rfl, ⟨h.fill.1, h.fill.2.1, Nat.le_trans (Nat.le_of_lt h.fill.2.2) (by decide)⟩, hr, rfl⟩,
      not_not_intro h.fill.2.2, _, ⟨h.payload.2, rfl⟩, rfl, rfl⟩, h.cap, rfl, rfl⟩

theorem parseAisSentence_render (cfg : Cfg) (b : Body) (h : b.WF cfg) (rest : Bytes) (hr : NoLeadDigit rest) :
    parseAisSentence cfg (b.render ++ rest) = ok (rest, b.sentence) :=
  parseAisSentence_eq_ok.mpr ⟨b, h, rfl, rfl, hr⟩

theorem allDigits_no_star {ds : Bytes} (h : AllDigits ds) : (0x2A : UInt8) ∉ ds :=
  fun hm => absurd (h _ hm) (by decide)

/-- The digit fields of a well-formed body hold no `*`: the rendering has one only if another field has. -/
theorem render_no_star {b : Body} {cfg : Cfg} (h : b.WF cfg) (ht : (0x2A : UInt8) ∉ b.talker)
    (hr : (0x2A : UInt8) ∉ b.report) (hc : (0x2A : UInt8) ∉ b.ch) (hp : (0x2A : UInt8) ∉ b.payload) :
    (0x2A : UInt8) ∉ b.render := by
  have hid : (0x2A : UInt8) ∉ b.id := by
    rcases h.id with h0 | h1
    · rw [h0]; exact List.not_mem_nil
    · exact allDigits_no_star h1.1
  simp only [Body.render, comma, List.mem_append, List.mem_singleton, not_or]
  exact ⟨ht, hr, by decide, allDigits_no_star h.nf.2.1, by decide, allDigits_no_star h.fn.2.1, by decide, hid,
    by decide, hc, by decide, hp, by decide, allDigits_no_star h.fill.2.1⟩

end AisVerif
