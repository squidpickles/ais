/-
  `Clean`: neither a panic nor a `Checksum` error.  The specification of `messages::parse` is clean arm by arm
  (`cl_dispatch`); the sentence layer follows in `Lemmas/CleanSentence.lean`.
-/
import AisVerif.Refine.Dispatch

namespace AisVerif

def Clean {α : Type} (r : Res α) : Prop := (∀ p, r ≠ panic p) ∧ (∀ a b, r ≠ err (.checksum a b))

theorem cl_ok {α : Type} (a : α) : Clean (ok a) := ⟨fun _ h => (by cases h), fun _ _ h => (by cases h)⟩
theorem cl_err {α : Type} {e : Err} (h : ∀ a b, e ≠ .checksum a b) : Clean (err e : Res α) :=
  ⟨nofun, fun a b he => h a b (Res.err.inj he)⟩
theorem cl_nomError {α : Type} (k : NomKind) : Clean (err (.nomError k) : Res α) := cl_err nofun
theorem cl_nomFailure {α : Type} (k : NomKind) : Clean (err (.nomFailure k) : Res α) := cl_err nofun
theorem cl_text {α : Type} (m : ErrMsg) : Clean (err (.text m) : Res α) := cl_err nofun
theorem cl_eof {α : Type} : Clean (Spec.eof : Res α) := cl_nomError _
theorem cl_ite {α : Type} {c : Prop} [Decidable c] {a b : Res α} (ha : Clean a) (hb : Clean b) :
    Clean (if c then a else b) := by split <;> assumption

theorem cl_bind {α β : Type} {r : Res α} {f : α → Res β} (hr : Clean r) (hf : ∀ a, Clean (f a)) :
    Clean (r >>= f) := by
  cases r with
  | ok a => exact hf a
  | err e => exact ⟨fun _ h => (by cases h), fun a b h => hr.2 a b (by cases h; rfl)⟩
  | panic q => exact absurd rfl (hr.1 q)

theorem cl_map {α β : Type} {f : α → β} {r : Res α} (hr : Clean r) : Clean (r.map f) := by
  cases r <;> exact cl_bind (f := fun a => ok (f a)) hr fun _ => cl_ok _

theorem cl_plain {c : Prop} [Decidable c] {a : Msg} : Clean (if c then ok a else Spec.eof) := cl_ite (cl_ok _) cl_eof

theorem cl_capped {c : Prop} [Decidable c] {cfg : Cfg} {n lim : Nat} {a : Msg} :
    Clean (if c then Spec.capped cfg n lim (ok a) else Spec.eof) :=
  cl_ite (cl_ite (cl_nomFailure _) (cl_ok _)) cl_eof

theorem cl_specRadioTail {mk : List (Key × Val) → Msg} {bs : List UInt8} {s t : Nat} :
    Clean (Spec.specRadioTail mk bs s t) := by
  unfold Spec.specRadioTail
  refine cl_ite ?_ cl_eof
  split
  · exact cl_plain
  · exact cl_nomFailure _

theorem cl_decodeT15 {bs : List UInt8} : Clean (Spec.decodeT15 bs) :=
  cl_ite cl_plain (cl_ok _)

/-- Arm by arm, in the order of `Spec.dispatch`. -/
theorem cl_dispatch (cfg : Cfg) (t : Nat) (bs : List UInt8) : Clean (Spec.dispatch cfg t bs) :=
  cl_ite cl_specRadioTail <| cl_ite cl_specRadioTail <| cl_ite cl_plain <| cl_ite cl_plain <| cl_ite cl_capped <|
  cl_ite cl_capped <| cl_ite cl_specRadioTail <| cl_ite cl_plain <| cl_ite cl_specRadioTail <| cl_ite cl_capped <|
  cl_ite cl_plain <| cl_ite cl_capped <| cl_ite (cl_ite cl_decodeT15 cl_eof) <| cl_ite cl_plain <|
  cl_ite cl_capped <| cl_ite cl_plain <| cl_ite cl_plain <| cl_ite cl_plain <| cl_ite cl_plain <|
  cl_ite (cl_ite (cl_ite cl_plain (cl_ite cl_plain (cl_ok _))) cl_eof) <| cl_ite cl_plain (cl_text _)

theorem cl_decode (cfg : Cfg) (bs : List UInt8) : Clean (Spec.decode cfg bs) :=
  cl_ite (cl_dispatch cfg _ bs) cl_eof

theorem cl_parseMessage (cfg : Cfg) (bs : List UInt8) : Clean (parseMessage cfg bs) :=
  parseMessage_eq cfg bs ▸ cl_decode cfg bs

end AisVerif
