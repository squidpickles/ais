/-
  The sentence grammar, unarmoring, decoding and the reassembly step never panic and never produce a
  `Checksum` error (`Clean`): the only checksum error of `AisParser::parse` is the one of its own gate.
-/
import AisVerif.Lemmas.Body
import AisVerif.Lemmas.Clean
import AisVerif.Lemmas.Unarmor
import AisVerif.Lemmas.Step

namespace AisVerif

theorem cl_tag (t i : Bytes) : Clean (tag t i) := cl_ite (cl_ok _) (cl_nomError _)
theorem cl_takeBytes (n : Nat) (i : Bytes) : Clean (takeBytes n i) := cl_ite (cl_nomError _) (cl_ok _)
theorem cl_takeUntil (b : UInt8) (i : Bytes) : Clean (takeUntil b i) := cl_ite (cl_ok _) (cl_nomError _)
theorem cl_digit1 (i : Bytes) : Clean (digit1 i) := by
  unfold digit1; exact cl_ite (cl_nomError _) (cl_ok _)
theorem cl_parseU8Digit (i : Bytes) : Clean (parseU8Digit i) :=
  cl_bind (cl_digit1 i) (fun _ => cl_ite (cl_ok _) (cl_nomError _))
theorem cl_hexU32 (i : Bytes) : Clean (hexU32 i) := by
  unfold hexU32; exact cl_ite (cl_nomError _) (cl_ok _)

theorem cl_opt {α : Type} (p : Bytes → Res (Bytes × α)) (i : Bytes) (hp : Clean (p i)) : Clean (opt p i) := by
  unfold opt
  split
  · exact cl_ok _
  · exact cl_ok _
  · next e _ h => exact cl_err fun a b he => hp.2 a b (he ▸ h)
  · next q h => exact absurd h (hp.1 q)

theorem cl_messageType (data : Bytes) : Clean (messageType data) := by
  rw [messageType_spec]; exact cl_ite (cl_nomError _) (cl_ok _)

theorem cl_tagBlock (i : Bytes) : Clean (tagBlock i) :=
  cl_bind (cl_tag _ _) fun _ => cl_bind (cl_takeUntil _ _) fun _ => cl_bind (cl_tag _ _) fun _ => cl_ok _

theorem cl_delimiter (i : Bytes) : Clean (delimiter i) := by
  unfold delimiter
  split
  · exact cl_ok _
  · exact cl_tag _ _
  · exact cl_tag _ _

theorem cl_parseAisCore (i : Bytes) : Clean (parseAisCore i) :=
  cl_bind (cl_takeBytes _ _) fun _ => cl_bind (cl_takeBytes _ _) fun _ => cl_bind (cl_tag _ _) fun _ =>
    cl_bind (cl_parseU8Digit _) fun _ => cl_bind (cl_tag _ _) fun _ => cl_bind (cl_parseU8Digit _) fun _ =>
    cl_bind (cl_tag _ _) fun _ => cl_bind (cl_opt _ _ (cl_parseU8Digit _)) fun _ => cl_bind (cl_tag _ _) fun _ =>
    cl_bind (cl_takeUntil _ _) fun _ => cl_bind (cl_tag _ _) fun _ => cl_bind (cl_takeUntil _ _) fun _ =>
    cl_bind (cl_tag _ _) fun _ => cl_bind (cl_parseU8Digit _) fun _ =>
    cl_ite (cl_nomError _) (cl_bind (cl_messageType _) fun _ => cl_ok _)

theorem cl_parseAisSentence (cfg : Cfg) (i : Bytes) : Clean (parseAisSentence cfg i) :=
  cl_bind (cl_parseAisCore i) fun _ => cl_ite (cl_nomFailure _) (cl_ok _)

theorem cl_parseNmeaSentence (cfg : Cfg) (line : Bytes) : Clean (parseNmeaSentence cfg line) :=
  cl_bind (cl_opt _ _ (cl_tagBlock _)) fun _ => cl_bind (cl_delimiter _) fun _ =>
    cl_bind (cl_takeUntil _ _) fun _ => cl_bind (cl_parseAisSentence _ _) fun _ =>
    cl_ite (cl_nomError _) (cl_bind (cl_tag _ _) fun _ => cl_bind (cl_hexU32 _) fun _ =>
      cl_ite (cl_nomError _) (cl_ok _))

theorem cl_verifyAndExtend (cfg : Cfg) (st : PState) (s : Sentence) : Clean (verifyAndExtend cfg st s).2 := by
  rcases verifyAndExtend_result cfg st s with ⟨st2, h⟩ | ⟨m, h⟩ <;> rw [h]
  · exact cl_ok _
  · exact cl_text _

theorem cl_unarmor (cfg : Cfg) (data : Bytes) (fill : Nat) (hf : fill ≤ 5) : Clean (unarmor cfg data fill) := by
  rcases unarmor_result cfg data fill hf with ⟨_, h⟩ | ⟨_, h⟩ <;> rw [h]
  · exact cl_ok _
  · exact cl_text _

theorem cl_decodeInto (cfg : Cfg) (dec : Bool) (s : Sentence) (hf : s.fill_bit_count ≤ 5) :
    Clean (decodeInto cfg dec s) :=
  cl_ite (cl_bind (cl_unarmor cfg _ _ hf) fun un => cl_bind (cl_parseMessage cfg un) fun _ => cl_ok _) (cl_ok _)

/-- Once the checksum is verified, `AisParser::parse` neither panics nor reports a checksum error. -/
theorem cl_stepSentence (cfg : Cfg) (st : PState) (s : Sentence) (dec : Bool) (hf : s.fill_bit_count ≤ 5) :
    Clean (stepSentence cfg st s dec).2 := by
  obtain ⟨st', h | ⟨m, h⟩ | ⟨d, h⟩⟩ := stepSentence_result cfg st s <;> rw [h]
  · exact cl_ok _
  · exact cl_text _
  · exact cl_map (cl_decodeInto cfg dec { s with data := d } hf)

end AisVerif
