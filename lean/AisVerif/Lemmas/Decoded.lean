/-
  What a successful `messages::parse` is: `Decoded`, per type value, read off `Spec.dispatch` once
  (`Decoded.of_dispatch`, from the inversions of the shapes its arms have).  The per-type theorems of C04, C09-C16
  start from `Decoded.of_parse`.
-/
import AisVerif.Lemmas.Clean

namespace AisVerif
open Spec

theorem ite_ok_elim {c : Prop} [Decidable c] {a b : Res Msg} {m : Msg} {Q : Prop} (ha : c → a = ok m → Q)
    (hb : ¬ c → b = ok m → Q) (h : (if c then a else b) = ok m) : Q := by
  split at h
  · exact ha ‹c› h
  · exact hb ‹¬ c› h

theorem ite_eof_ok {c : Prop} [Decidable c] {r : Res Msg} {m : Msg}
    (h : (if c then r else Spec.eof) = ok m) : c ∧ r = ok m :=
  ite_ok_elim (fun hc hr => ⟨hc, hr⟩) (fun _ h => by cases h) h

theorem plain_ok {c : Prop} [Decidable c] {a m : Msg} (h : (if c then ok a else Spec.eof) = ok m) : c ∧ m = a :=
  have ⟨hc, h⟩ := ite_eof_ok h
  ⟨hc, (Res.ok.inj h).symm⟩

theorem capped_eq (cfg : Cfg) (n lim : Nat) (r : Res Msg) :
    Spec.capped cfg n lim r = if cfg = .noalloc ∧ lim < n then err (.nomFailure .tooLarge) else r := by
  cases cfg <;> simp [Spec.capped, Cfg.isNoalloc]

theorem capped_ok {cfg : Cfg} {n lim : Nat} {r : Res Msg} {m : Msg}
    (h : Spec.capped cfg n lim r = ok m) : r = ok m ∧ (cfg = .noalloc → n ≤ lim) := by
  rw [capped_eq] at h
  split at h
  · cases h
  · next hn => exact ⟨h, fun hc => Nat.le_of_not_lt fun hl => hn ⟨hc, hl⟩⟩

theorem capped_plain_ok {c : Prop} [Decidable c] {cfg : Cfg} {n lim : Nat} {a m : Msg}
    (h : (if c then Spec.capped cfg n lim (ok a) else Spec.eof) = ok m) :
    c ∧ (cfg = .noalloc → n ≤ lim) ∧ m = a :=
  have ⟨hc, h⟩ := ite_eof_ok h
  have ⟨h, hn⟩ := capped_ok h
  ⟨hc, hn, (Res.ok.inj h).symm⟩

theorem specRadioTail_ok {mk : List (Key × Val) → Msg} {bs : List UInt8} {s t : Nat} {m : Msg}
    (h : Spec.specRadioTail mk bs s t = ok m) :
    t ≤ 8 * bs.length ∧ ∃ r, Spec.radioOf (field bs 0 6) (field bs s 19) = some r ∧ m = mk r := by
  unfold Spec.specRadioTail at h
  obtain ⟨-, h⟩ := ite_eof_ok h
  split at h
  · exact have ⟨ht, e⟩ := plain_ok h; ⟨ht, _, ‹_›, e⟩
  · cases h

theorem decodeT15_ok {bs : List UInt8} {m : Msg} (h : Spec.decodeT15 bs = ok m) :
    ∃ rest, m = Spec.renderStations bs ((Spec.station bs 40).1 :: rest) :=
  ite_ok_elim (fun _ h => ⟨_, (plain_ok h).2⟩) (fun _ h => ⟨_, (Res.ok.inj h).symm⟩) h

/-- `m` is what `messages::parse` answers for the payload `bs` taken as type `t`: what the arm of `Spec.dispatch`
    for `t` asks of the length (and, without an allocator, of the capacity) and what it then returns.
    For a numeral `t` this unfolds by computation, so `obtain ⟨_, rfl⟩ := Decoded.of_parse ht h` yields the message.
    The types are grouped by the shape of their arm. -/
def Decoded (cfg : Cfg) (bs : List UInt8) (t : Nat) (m : Msg) : Prop :=
  match t with
  | 1 | 2 | 3 => 168 ≤ 8 * bs.length ∧ ∃ r, radioOf (field bs 0 6) (field bs 149 19) = some r ∧ m = decodeT01 bs r
  | 4 => 168 ≤ 8 * bs.length ∧
      ∃ r, radioOf (field bs 0 6) (field bs 149 19) = some r ∧ m = decodeBase .BaseStationReport bs r
  | 9 => 167 ≤ 8 * bs.length ∧ ∃ r, radioOf (field bs 0 6) (field bs 148 19) = some r ∧ m = decodeT09 bs r
  | 11 => 168 ≤ 8 * bs.length ∧
      ∃ r, radioOf (field bs 0 6) (field bs 149 19) = some r ∧ m = decodeBase .UtcDateResponse bs r
  | 5 => 302 ≤ 8 * bs.length ∧ m = decodeT05 bs
  | 7 => 72 ≤ 8 * bs.length ∧ m = decodeAcks .BinaryAcknowledgeMessage bs
  | 10 => 72 ≤ 8 * bs.length ∧ m = decodeT10 bs
  | 13 => 72 ≤ 8 * bs.length ∧ m = decodeAcks .SafetyRelatedAcknowledgment bs
  | 18 => 168 ≤ 8 * bs.length ∧ m = decodeT18 bs
  | 19 => 312 ≤ 8 * bs.length ∧ m = decodeT19 bs
  | 20 => 70 ≤ 8 * bs.length ∧ m = decodeT20 bs
  | 21 => 272 ≤ 8 * bs.length ∧ m = decodeT21 bs
  | 27 => 95 ≤ 8 * bs.length ∧ m = decodeT27 bs
  | 16 => 92 ≤ 8 * bs.length ∧ m = decodeT16 bs (decide (144 ≤ 8 * bs.length))
  | 6 => 88 ≤ 8 * bs.length ∧ (cfg = .noalloc → (bs.drop 11).length ≤ maxData) ∧ m = decodeT06 bs
  | 8 => 56 ≤ 8 * bs.length ∧ (cfg = .noalloc → (bs.drop 7).length ≤ maxData) ∧ m = decodeT08 bs
  | 12 => 78 ≤ 8 * bs.length ∧ (cfg = .noalloc → (8 * bs.length - 72) / 6 ≤ maxText) ∧ m = decodeT12 bs
  | 14 => 46 ≤ 8 * bs.length ∧ (cfg = .noalloc → (8 * bs.length - 40) / 6 ≤ maxText) ∧ m = decodeT14 bs
  | 17 => 120 ≤ 8 * bs.length ∧ (cfg = .noalloc → (bs.drop 15).length ≤ maxData) ∧ m = decodeT17 bs
  | 15 => 76 ≤ 8 * bs.length ∧ decodeT15 bs = ok m
  | 24 => 40 ≤ 8 * bs.length ∧ (field bs 38 2 = 0 → 160 ≤ 8 * bs.length ∧ m = decodeT24A bs) ∧
      (field bs 38 2 = 1 → 168 ≤ 8 * bs.length ∧ m = decodeT24B bs) ∧
      (field bs 38 2 ≠ 0 → field bs 38 2 ≠ 1 → m = decodeT24U bs)
  | _ => False

theorem Decoded.arm {cfg : Cfg} {bs : List UInt8} {m : Msg} {t : Nat} (k : Nat) {a b : Res Msg}
    (ha : a = ok m → Decoded cfg bs k m) (hb : b = ok m → Decoded cfg bs t m)
    (h : (if t = k then a else b) = ok m) : Decoded cfg bs t m :=
  ite_ok_elim (fun (c : t = k) h => c ▸ ha h) (fun _ => hb) h

theorem Decoded.of_dispatch {cfg : Cfg} {t : Nat} {bs : List UInt8} {m : Msg} :
    Spec.dispatch cfg t bs = ok m → Decoded cfg bs t m :=
  ite_ok_elim
    (fun c h => by obtain rfl | rfl | rfl : t = 1 ∨ t = 2 ∨ t = 3 := by omega
                   all_goals exact specRadioTail_ok h) fun _ =>
  arm 4 specRadioTail_ok <| arm 5 plain_ok <| arm 7 plain_ok <| arm 6 capped_plain_ok <| arm 8 capped_plain_ok <|
  arm 9 specRadioTail_ok <| arm 10 plain_ok <| arm 11 specRadioTail_ok <| arm 12 capped_plain_ok <|
  arm 13 plain_ok <| arm 14 capped_plain_ok <| arm 15 ite_eof_ok <| arm 16 plain_ok <| arm 17 capped_plain_ok <|
  arm 18 plain_ok <| arm 19 plain_ok <| arm 20 plain_ok <| arm 21 plain_ok <|
  arm 24 (fun h =>
    have ⟨h40, h⟩ := ite_eof_ok h
    ⟨h40, fun p0 => plain_ok (by rwa [if_pos p0] at h), fun p1 => plain_ok (by rwa [if_neg (by omega), if_pos p1] at h),
      fun p0 p1 => by rw [if_neg p0, if_neg p1] at h; exact (Res.ok.inj h).symm⟩) <|
  arm 27 plain_ok (fun h => by cases h)

theorem parseMessage_of_len (cfg : Cfg) (bs : List UInt8) (h : 6 ≤ 8 * bs.length) :
    parseMessage cfg bs = Spec.dispatch cfg (field bs 0 6) bs :=
  (parseMessage_eq cfg bs).trans (if_pos h)

theorem Decoded.of_parse {cfg : Cfg} {bs : List UInt8} {m : Msg} {t : Nat} (ht : field bs 0 6 = t)
    (h : parseMessage cfg bs = ok m) : Decoded cfg bs t m := by
  rw [parseMessage_eq] at h
  exact ht ▸ .of_dispatch (ite_eof_ok h).2

/-- Types 1-3, whose type value is not a numeral in the statements. -/
theorem Decoded.of_parse_T01 {cfg : Cfg} {bs : List UInt8} {m : Msg} (ht : 1 ≤ field bs 0 6 ∧ field bs 0 6 ≤ 3)
    (h : parseMessage cfg bs = ok m) :
    168 ≤ 8 * bs.length ∧ ∃ r, radioOf (field bs 0 6) (field bs 149 19) = some r ∧ m = decodeT01 bs r := by
  obtain e | e | e : field bs 0 6 = 1 ∨ field bs 0 6 = 2 ∨ field bs 0 6 = 3 := by omega
  all_goals exact Decoded.of_parse e h

theorem Decoded.of_parse_T24A {cfg : Cfg} {bs : List UInt8} {m : Msg} (ht : field bs 0 6 = 24) (hp : field bs 38 2 = 0)
    (h : parseMessage cfg bs = ok m) : 160 ≤ 8 * bs.length ∧ m = decodeT24A bs :=
  (Decoded.of_parse ht h).2.1 hp

theorem Decoded.of_parse_T24B {cfg : Cfg} {bs : List UInt8} {m : Msg} (ht : field bs 0 6 = 24) (hp : field bs 38 2 = 1)
    (h : parseMessage cfg bs = ok m) : 168 ≤ 8 * bs.length ∧ m = decodeT24B bs :=
  (Decoded.of_parse ht h).2.2.1 hp

theorem parseMessage_err_of_not_ok {cfg : Cfg} {bs : List UInt8} (h : ∀ m, parseMessage cfg bs ≠ ok m) :
    ∃ e, parseMessage cfg bs = err e := by
  cases hp : parseMessage cfg bs with
  | err e => exact ⟨e, rfl⟩
  | ok m => exact absurd hp (h m)
  | panic p => exact absurd hp ((cl_parseMessage cfg bs).1 p)

/-- `∀ e ∈ table, lhs e = rhs e` by one comparison of the two columns; for a concrete table that is `by rfl`.
    (The `Reports` predicates of C04, C10-C13 all have this form.)  The right column is spelt as a `foldr`: with
    `List.map` on both sides the unifier first tries to unify the two functions, at every row, before it evaluates. -/
theorem forall_mem_of_map_eq {α β : Type} {f g : α → β} {l : List α}
    (h : l.map f = l.foldr (fun e r => g e :: r) []) : ∀ e ∈ l, f e = g e := by
  induction l with
  | nil => exact fun _ h => nomatch h
  | cons a l ih =>
    rw [List.map_cons, List.foldr_cons, List.cons.injEq] at h
    exact List.forall_mem_cons.2 ⟨h.1, ih h.2⟩

/-! The arms that are also used forwards, as equations.  (`by rfl`: proved by the term `rfl` each is checked again, to be
registered as a definitional rewrite rule for `dsimp`, which nothing needs.) -/

theorem dispatch_T06 (cfg : Cfg) (bs : List UInt8) :
    Spec.dispatch cfg 6 bs = (if 88 ≤ 8 * bs.length then Spec.capped cfg (bs.drop 11).length maxData (ok (Spec.decodeT06 bs)) else Spec.eof) := by rfl

theorem dispatch_T10 (cfg : Cfg) (bs : List UInt8) :
    Spec.dispatch cfg 10 bs = (if 72 ≤ 8 * bs.length then ok (Spec.decodeT10 bs) else Spec.eof) := by rfl

theorem dispatch_T24 (cfg : Cfg) (bs : List UInt8) :
    Spec.dispatch cfg 24 bs = (if 40 ≤ 8 * bs.length then (if field bs 38 2 = 0 then (if 160 ≤ 8 * bs.length then ok (Spec.decodeT24A bs) else Spec.eof) else if field bs 38 2 = 1 then (if 168 ≤ 8 * bs.length then ok (Spec.decodeT24B bs) else Spec.eof) else ok (Spec.decodeT24U bs)) else Spec.eof) := by rfl

end AisVerif
