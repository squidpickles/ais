/-
  Encoder side: packing a bit stream into bytes and the round-trip property of `field`.
-/
import AisVerif.Lemmas.Bits
namespace AisVerif
open Spec

/-- One row of a message layout with the value to transmit: bit offset, width, value. -/
structure Row where
  off : Nat
  w : Nat
  v : Nat

/-- Bit `i` (most significant first) of the `w`-bit field holding `v` at offset `off`; 0 outside the field. -/
def Row.bitAt (r : Row) (i : Nat) : Nat :=
  if r.off ≤ i ∧ i < r.off + r.w then (r.v / 2 ^ (r.off + r.w - 1 - i)) % 2 else 0

/-- The bit stream that carries every row's value at its position (rows do not overlap), 0 elsewhere. -/
def rowsBit (rows : List Row) (i : Nat) : Nat :=
  match rows.find? (fun r => decide (r.off ≤ i ∧ i < r.off + r.w)) with
  | some r => r.bitAt i
  | none => 0

/-- Pack the first `n` bits of a bit stream into `(n + 7) / 8` bytes, most significant bit first (padding 0). -/
def packBits (n : Nat) (f : Nat → Nat) : List UInt8 :=
  (List.range ((n + 7) / 8)).map fun j =>
    UInt8.ofNat ((List.range 8).foldl (fun acc k => 2 * acc + (if 8 * j + k < n then f (8 * j + k) % 2 else 0)) 0)

def encodeRows (n : Nat) (rows : List Row) : List UInt8 := packBits n (rowsBit rows)

/-- Rows are pairwise non-overlapping, lie within `n` bits, and every value fits its width. -/
def RowsOK (n : Nat) (rows : List Row) : Prop :=
  (∀ r ∈ rows, r.off + r.w ≤ n ∧ r.v < 2 ^ r.w) ∧
  rows.Pairwise (fun a b => a.off + a.w ≤ b.off ∨ b.off + b.w ≤ a.off)

theorem packBits_length (n : Nat) (f : Nat → Nat) : (packBits n f).length = (n + 7) / 8 := by
  simp [packBits]

theorem encodeRows_length (n : Nat) (rows : List Row) : (encodeRows n rows).length = (n + 7) / 8 :=
  packBits_length n _

theorem bit_packBits (n : Nat) (f : Nat → Nat) (i : Nat) :
    bit (packBits n f) i = if i < n then f i % 2 else 0 := by
  by_cases hj : i / 8 < (n + 7) / 8
  · have hg : ∀ k, (fun k => if 8 * (i / 8) + k < n then f (8 * (i / 8) + k) % 2 else 0) k < 2 :=
      fun k => by dsimp only; split; exact Nat.mod_lt _ (by decide); decide
    unfold bit packBits
    rw [List.getElem?_map, List.getElem?_range hj, Option.map_some, Option.getD_some, foldl_eq_bitsVal,
      UInt8.toNat_ofNat_of_lt' (bitsVal_lt hg 8), bitsVal_digit hg 8 (i % 8) (Nat.mod_lt _ (by decide)),
      Nat.div_add_mod]
  · have ⟨h1, h2⟩ : 8 * ((n + 7) / 8) ≤ i ∧ ¬ i < n := by omega
    rw [bit_ge _ _ (packBits_length n f ▸ h1), if_neg h2]

theorem rowsBit_eq (rows : List Row) (i : Nat)
    (hp : rows.Pairwise (fun a b => a.off + a.w ≤ b.off ∨ b.off + b.w ≤ a.off)) :
    ∀ r ∈ rows, r.off ≤ i → i < r.off + r.w → rowsBit rows i = r.bitAt i := by
  unfold rowsBit
  induction rows with
  | nil => intro r hr; cases hr
  | cons a l ih =>
    intro r hr h1 h2
    rw [List.pairwise_cons] at hp
    rcases List.mem_cons.mp hr with rfl | hmem
    · simp [List.find?, h1, h2]
    · have hd := hp.1 r hmem
      have hna : ¬ (a.off ≤ i ∧ i < a.off + a.w) := by omega
      simp only [List.find?, hna, decide_false]
      exact ih hp.2 r hmem h1 h2

/-- **Round trip**: in the payload that carries the rows, every row's field reads back its value. -/
theorem field_encodeRows (n : Nat) (rows : List Row) (h : RowsOK n rows) :
    ∀ r ∈ rows, field (encodeRows n rows) r.off r.w = r.v := by
  intro r hr
  obtain ⟨hfit, hv⟩ := h.1 r hr
  refine field_of_bits _ _ _ _ hv fun k hk => ?_
  have hin : r.off ≤ r.off + k ∧ r.off + k < r.off + r.w := ⟨Nat.le_add_right .., Nat.add_lt_add_left hk _⟩
  unfold encodeRows
  rw [bit_packBits, if_pos (Nat.lt_of_lt_of_le hin.2 hfit), rowsBit_eq rows _ h.2 r hr hin.1 hin.2,
    Row.bitAt, if_pos hin, Nat.mod_mod, Nat.add_sub_assoc (Nat.lt_of_le_of_lt (Nat.zero_le k) hk),
    Nat.add_sub_add_left]

end AisVerif
