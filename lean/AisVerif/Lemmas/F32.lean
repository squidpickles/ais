/-
  Lemmas about the software binary32 arithmetic of `Model/F32.lean`: every operation returns the
  pattern of a value within a relative error of `2^-24` of the exact result (what rounding to nearest, to half a unit in
  the last place, comes to in the normal range: `roundPos_mk`, `roundPos_spec`).
  (The one file that imports Mathlib modules — tactics and ordered field lemmas over ℚ — and only `Props/C10.lean`
  imports it; the model and the driver stay core-only.)
-/
import AisVerif.Spec.F32
import Mathlib.Tactic.Linarith
import Mathlib.Tactic.Ring
import Mathlib.Algebra.Order.Field.Basic

namespace AisVerif.F32

theorem rne_cases (N D : Nat) :
    rne N D = N / D ∧ 2 * (N % D) ≤ D ∨ rne N D = N / D + 1 ∧ D ≤ 2 * (N % D) := by
  rw [rne]
  split_ifs with h1 h2
  exacts [.inl ⟨rfl, h1.le⟩, .inr ⟨rfl, h2.le⟩, .inl ⟨rfl, Nat.le_of_not_lt h2⟩, .inr ⟨rfl, Nat.le_of_not_lt h1⟩]

/-- `rne N D` is within one half of `N / D`, said without leaving `Nat`: `|2·D·rne − 2·N| ≤ D`. -/
theorem rne_near (N D : Nat) (hD : 0 < D) :
    2 * (D * rne N D) ≤ 2 * N + D ∧ 2 * N ≤ 2 * (D * rne N D) + D := by
  have h := Nat.div_add_mod N D
  have hr := Nat.mod_lt N hD
  rcases rne_cases N D with ⟨e, h'⟩ | ⟨e, h'⟩ <;> rw [e]
  · omega
  · rw [Nat.mul_add_one]; omega

theorem rne_err (N D : Nat) (hD : 0 < D) : |((rne N D : Nat) : ℚ) - (N : ℚ) / D| ≤ 1 / 2 := by
  have hDq : (0 : ℚ) < D := Rat.natCast_pos.mpr hD
  have h : (2 : ℚ) * (D * rne N D) ≤ 2 * N + D ∧ (2 : ℚ) * N ≤ 2 * (D * rne N D) + D := by
    exact_mod_cast rne_near N D hD
  rw [abs_le, neg_le_sub_iff_le_add, sub_le_comm, div_le_iff₀ hDq, le_div_iff₀ hDq]
  constructor
  · linarith only [h.2]
  · linarith only [h.1]

-- `two_pos`, `one_lt_two` are given their type: as arguments they are elaborated before it is known, which is slow
theorem two_zpow_pos (k : Int) : (0 : ℚ) < 2 ^ k := zpow_pos (two_pos (α := ℚ)) k

theorem two_zpow_add (a b : Int) : (2 : ℚ) ^ (a + b) = 2 ^ a * 2 ^ b := zpow_add₀ two_ne_zero a b

theorem two_zpow_sub (a b : Int) : (2 : ℚ) ^ (a - b) = 2 ^ a / 2 ^ b := zpow_sub₀ two_ne_zero a b

theorem two_zpow_pred (k : Int) : (2 : ℚ) ^ (k - 1) = 2 ^ k / 2 := by
  rw [two_zpow_sub, zpow_one]

theorem two_zpow_lt {a b : Int} (h : (2 : ℚ) ^ a < 2 ^ b) : a < b :=
  (zpow_lt_zpow_iff_right₀ (one_lt_two (α := ℚ))).mp h

/-- An integer exponent splits into its positive and its negative part (one of them is zero): this is
    how the model scales numerators and denominators without leaving `Nat`. -/
theorem zpow_split (k : Int) : (2 : ℚ) ^ k = ((2 ^ k.toNat : Nat) : ℚ) / ((2 ^ (-k).toNat : Nat) : ℚ) := by
  rw [Nat.cast_pow, Nat.cast_pow, Nat.cast_ofNat, ← zpow_natCast, ← zpow_natCast, ← two_zpow_sub,
    Int.toNat_sub_toNat_neg]

theorem scale_cast (n d : Nat) (k : Int) :
    ((n * 2 ^ k.toNat : Nat) : ℚ) / ((d * 2 ^ (-k).toNat : Nat) : ℚ) = (n : ℚ) / d * 2 ^ k := by
  rw [zpow_split k, Nat.cast_mul, Nat.cast_mul, mul_div_mul_comm]

theorem toNat_neg_cases (k : Int) : 0 ≤ k ∧ (-k).toNat = 0 ∨ ¬0 ≤ k ∧ k.toNat = 0 := by omega

theorem twoPow_eq (k : Int) : twoPow k = (2 : ℚ) ^ k := by
  rw [zpow_split, twoPow]
  rcases toNat_neg_cases k with ⟨h, e⟩ | ⟨h, e⟩
  · rw [if_pos h, e, pow_zero, Nat.cast_one, div_one]
  · rw [if_neg h, e, pow_zero, Nat.cast_one]

theorem geTwoPow_eq (n d : Nat) (c : Int) :
    geTwoPow n d c = decide (d * 2 ^ c.toNat ≤ n * 2 ^ (-c).toNat) := by
  rcases toNat_neg_cases c with ⟨h, e⟩ | ⟨h, e⟩
  · rw [geTwoPow, if_pos h, e, Nat.pow_zero, Nat.mul_one]
  · rw [geTwoPow, if_neg h, e, Nat.pow_zero, Nat.mul_one]

theorem sigOf_eq (n d : Nat) (k : Int) : sigOf n d k = rne (n * 2 ^ (-k).toNat) (d * 2 ^ k.toNat) := by
  rcases toNat_neg_cases k with ⟨h, e⟩ | ⟨h, e⟩
  · rw [sigOf, if_pos h, e, Nat.pow_zero, Nat.mul_one]
  · rw [sigOf, if_neg h, e, Nat.pow_zero, Nat.mul_one]

theorem geTwoPow_iff (n d : Nat) (hd : 0 < d) (c : Int) :
    geTwoPow n d c = true ↔ (2 : ℚ) ^ c ≤ (n : ℚ) / d := by
  rw [geTwoPow_eq, decide_eq_true_eq, zpow_split,
    div_le_div_iff₀ (Rat.natCast_pos.mpr (Nat.two_pow_pos _)) (Rat.natCast_pos.mpr hd), ← Nat.cast_mul, ← Nat.cast_mul,
    Rat.natCast_le_natCast, Nat.mul_comm d]

theorem natCast_two_pow (k : Nat) : ((2 ^ k : Nat) : ℚ) = 2 ^ (k : Int) := by
  rw [Nat.cast_pow, Nat.cast_ofNat, zpow_natCast]

theorem natCast_le_two_pow {x k : Nat} (h : x ≤ 2 ^ k) : (x : ℚ) ≤ 2 ^ (k : Int) :=
  (Rat.natCast_le_natCast.mpr h).trans_eq (natCast_two_pow k)

theorem natCast_lt_two_pow {x k : Nat} (h : x < 2 ^ k) : (x : ℚ) < 2 ^ (k : Int) :=
  (Rat.natCast_lt_natCast.mpr h).trans_eq (natCast_two_pow k)

theorem log2_bounds (n : Nat) (hn : 0 < n) : (2 : ℚ) ^ (Nat.log2 n : Int) ≤ n ∧ (n : ℚ) < 2 ^ ((Nat.log2 n : Int) + 1) := by
  rw [← Nat.cast_succ, ← natCast_two_pow]
  exact ⟨Rat.natCast_le_natCast.mpr (Nat.log2_self_le hn.ne'), natCast_lt_two_pow Nat.lt_log2_self⟩

theorem sigOf_err (n d : Nat) (hd : 0 < d) (k : Int) :
    |((sigOf n d k : Nat) : ℚ) - (n : ℚ) / d / 2 ^ k| ≤ 1 / 2 := by
  rw [sigOf_eq, div_eq_mul_inv _ ((2 : ℚ) ^ k), ← zpow_neg, ← scale_cast, neg_neg]
  exact rne_err _ _ (Nat.mul_pos hd (Nat.two_pow_pos _))

theorem expOf_spec (n d : Nat) (hn : 0 < n) (hd : 0 < d) :
    (2 : ℚ) ^ expOf n d ≤ (n : ℚ) / d ∧ (n : ℚ) / d < 2 ^ (expOf n d + 1) := by
  obtain ⟨hn1, hn2⟩ := log2_bounds n hn
  obtain ⟨hd1, hd2⟩ := log2_bounds d hd
  -- the difference `c` of the two bit lengths is the exponent or one too many; `geTwoPow` decides
  unfold expOf
  generalize (Nat.log2 n : Int) = a at *
  generalize (Nat.log2 d : Int) = b at *
  have hup : (n : ℚ) / d < 2 ^ (a - b + 1) := by
    rw [sub_add_eq_add_sub, two_zpow_sub]
    exact div_lt_div₀ hn2 hd1 (two_zpow_pos _).le (two_zpow_pos _)
  have hlo : (2 : ℚ) ^ (a - b - 1) ≤ (n : ℚ) / d := by
    rw [sub_sub, two_zpow_sub]
    exact div_le_div₀ Rat.natCast_nonneg hn1 (Rat.natCast_pos.mpr hd) hd2.le
  simp only
  split
  · exact ⟨(geTwoPow_iff n d hd _).mp ‹_›, hup⟩
  · rw [sub_add_cancel]
    exact ⟨hlo, lt_of_not_ge (mt (geTwoPow_iff n d hd _).mpr ‹_›)⟩

theorem signBit_of_lt {b : Nat} (h : b < 2 ^ 31) : signBit b = false := by
  rw [signBit, Nat.div_eq_of_lt h]; rfl

/-- The positive normal pattern with biased exponent `j + 1` and mantissa field `m`. -/
theorem toRat_mk (j m : Nat) (hj : j + 1 < 255) (hm : m < 2 ^ 23) {b : Nat} (hb : b = (j + 1) * 2 ^ 23 + m) :
    toRat b = ((2 ^ 23 + m : Nat) : ℚ) * 2 ^ ((j : Int) - 149) ∧
      signBit b = false ∧ b < 2 ^ 31 ∧ expField b ≠ 255 ∧ expField b ≠ 0 := by
  have hlt : b < 2 ^ 31 := by omega
  have e1 : expField b = j + 1 := by
    rw [expField, hb, Nat.add_comm, Nat.add_mul_div_right _ _ (Nat.two_pow_pos 23), Nat.div_eq_of_lt hm,
      Nat.zero_add, Nat.mod_eq_of_lt (Nat.lt_succ_of_lt hj)]
  have e2 : manField b = m := by
    rw [manField, hb, Nat.add_comm, Nat.add_mul_mod_self_right, Nat.mod_eq_of_lt hm]
  have e3 := signBit_of_lt hlt
  refine ⟨?_, e3, hlt, e1.trans_ne hj.ne, e1.trans_ne j.succ_ne_zero⟩
  rw [toRat, sig, ulpExp, e1, e2, e3, twoPow_eq, if_neg j.succ_ne_zero, max_eq_left j.succ_pos,
    if_neg Bool.false_ne_true, one_mul, show ((j + 1 : Nat) : Int) - 150 = j - 149 by omega]

theorem toRat_encode (k : Int) (m : Nat) (hk : -149 ≤ k) (hk2 : k ≤ 103) (hm1 : 2 ^ 23 ≤ m) (hm2 : m ≤ 2 ^ 24) :
    toRat (encode k m) = (m : ℚ) * 2 ^ k ∧ signBit (encode k m) = false ∧ encode k m < 2 ^ 31 ∧
      expField (encode k m) ≠ 255 ∧ expField (encode k m) ≠ 0 := by
  obtain ⟨j, rfl⟩ : ∃ j : Nat, k = (j : Int) - 149 := ⟨(k + 149).toNat, by omega⟩
  obtain ⟨r, rfl⟩ := Nat.exists_eq_add_of_le hm1
  have hj : j + 2 < 255 := by omega
  rw [encode, sub_add_cancel, Int.toNat_natCast, if_neg (by omega), ← Nat.add_assoc, ← Nat.succ_mul]
  -- `r < 2^23` is the mantissa field of exponent field `j + 1`; `r = 2^23` carries into the next exponent
  rcases Nat.lt_or_ge r (2 ^ 23) with h | h
  · exact toRat_mk j r (Nat.lt_of_succ_lt hj) h rfl
  · obtain rfl : r = 2 ^ 23 := by omega
    obtain ⟨h1, h2⟩ := toRat_mk (j + 1) 0 hj (Nat.two_pow_pos 23) (by rw [Nat.add_zero, Nat.succ_mul (j + 1)])
    refine ⟨?_, h2⟩
    rw [h1, Nat.cast_succ, add_sub_right_comm, two_zpow_add, zpow_one]
    push_cast; ring

/-- What `roundPos` delivers (`roundPos_spec`): the pattern of a finite, normal, non-negative number whose
    value is the exact one times `1 + δ` with `|δ| ≤ 2^-24`.  (The signed operations deliver `Approx`.) -/
structure RoundsTo (b : Nat) (x : ℚ) : Prop where
  rel : ∃ δ : ℚ, |δ| ≤ 2 ^ (-24 : Int) ∧ toRat b = x * (1 + δ)
  pos : signBit b = false
  lt : b < 2 ^ 31
  finite : expField b ≠ 255
  normal : expField b ≠ 0

theorem nat_near {m a b : Nat} {y : ℚ} (h : |(m : ℚ) - y| ≤ 1 / 2) (ha : (a : ℚ) ≤ y) (hb : y ≤ b) :
    a ≤ m ∧ m ≤ b := by
  obtain ⟨h1, h2⟩ := abs_le.mp h
  rw [neg_le_sub_iff_le_add] at h1
  rw [sub_le_iff_le_add'] at h2
  constructor <;> apply Nat.le_of_lt_succ <;> rw [← Rat.natCast_lt_natCast, Nat.cast_succ]
  · exact (ha.trans h1).trans_lt (add_lt_add_right one_half_lt_one _)
  · exact (h2.trans (add_le_add_left hb _)).trans_lt (add_lt_add_right one_half_lt_one _)

/-- The shape of every rounded result in the normal range: an integer significand `m` within one half
    of the exact quotient by the unit in the last place `2^k`, `k = ⌊log₂ x⌋ - 23`. -/
theorem roundPos_mk (n d : Nat) (hn : 0 < n) (hd : 0 < d)
    (hlo : (2 : ℚ) ^ (-126 : Int) ≤ (n : ℚ) / d) (hhi : (n : ℚ) / d < 2 ^ (127 : Int)) :
    ∃ (m : Nat) (k : Int), toRat (roundPos n d) = (m : ℚ) * 2 ^ k ∧ |(m : ℚ) - (n : ℚ) / d / 2 ^ k| ≤ 1 / 2 ∧
      (2 : ℚ) ^ (23 : Int) ≤ (n : ℚ) / d / 2 ^ k ∧ k = expOf n d - 23 ∧
      signBit (roundPos n d) = false ∧ roundPos n d < 2 ^ 31 ∧ expField (roundPos n d) ≠ 255 ∧
      expField (roundPos n d) ≠ 0 := by
  obtain ⟨he1, he2⟩ := expOf_spec n d hn hd
  have hge := two_zpow_lt (hlo.trans_lt he2)
  have hle := two_zpow_lt (he1.trans_lt hhi)
  rw [roundPos, ulpOf, max_eq_left (by omega)]
  generalize expOf n d = e at *
  have hpk := two_zpow_pos (e - 23)
  have hs := sigOf_err n d hd (e - 23)
  have hy1 : (2 : ℚ) ^ (23 : Int) ≤ (n : ℚ) / d / 2 ^ (e - 23) := by
    rw [le_div_iff₀ hpk, ← two_zpow_add, add_sub_cancel]; exact he1
  have hy2 : (n : ℚ) / d / 2 ^ (e - 23) ≤ 2 ^ (24 : Int) := by
    rw [div_le_iff₀ hpk, ← two_zpow_add, add_sub_left_comm]; exact he2.le
  obtain ⟨hm1, hm2⟩ := nat_near hs ((natCast_two_pow 23).trans_le hy1) (hy2.trans_eq (natCast_two_pow 24).symm)
  obtain ⟨h1, h2⟩ := toRat_encode (e - 23) _ (by omega) (by omega) hm1 hm2
  exact ⟨_, _, h1, hs, hy1, rfl, h2⟩

theorem roundPos_spec (n d : Nat) (hn : 0 < n) (hd : 0 < d)
    (hlo : (2 : ℚ) ^ (-126 : Int) ≤ (n : ℚ) / d) (hhi : (n : ℚ) / d < 2 ^ (127 : Int)) :
    RoundsTo (roundPos n d) ((n : ℚ) / d) := by
  obtain ⟨m, k, h1, hs, hy1, -, h2, h3, h4, h5⟩ := roundPos_mk n d hn hd hlo hhi
  have hx : (n : ℚ) / d = (n : ℚ) / d / 2 ^ k * 2 ^ k := (div_mul_cancel₀ _ (two_zpow_pos k).ne').symm
  generalize (n : ℚ) / d / 2 ^ k = y at *
  have hy : 0 < y := (two_zpow_pos 23).trans_le hy1
  -- the absolute error `1/2` of the significand `y ≥ 2^23` is the relative error `2^-24`
  refine ⟨⟨((m : ℚ) - y) / y, ?_, ?_⟩, h2, h3, h4, h5⟩
  · rw [abs_div, abs_of_pos hy, div_le_iff₀ hy]
    calc |(m : ℚ) - y| ≤ 2 ^ (-24 : Int) * 2 ^ (23 : Int) := by norm_num; exact hs
      _ ≤ 2 ^ (-24 : Int) * y := mul_le_mul_of_nonneg_left hy1 (two_zpow_pos _).le
  · rw [h1, hx, mul_right_comm, mul_add, mul_one, mul_div_cancel₀ _ hy.ne', add_sub_cancel]

theorem roundPos_exact (n d : Nat) (hn : 0 < n) (hd : 0 < d)
    (hlo : (2 : ℚ) ^ (-126 : Int) ≤ (n : ℚ) / d) (hhi : (n : ℚ) / d < 2 ^ (127 : Int))
    (z : Nat) (hz : (n : ℚ) / d / 2 ^ (expOf n d - 23) = z) :
    toRat (roundPos n d) = (n : ℚ) / d := by
  obtain ⟨m, k, h1, hs, -, rfl, -⟩ := roundPos_mk n d hn hd hlo hhi
  rw [hz] at hs
  obtain ⟨hzm, hmz⟩ := nat_near hs le_rfl le_rfl
  rw [h1, Nat.le_antisymm hmz hzm, ← hz, div_mul_cancel₀ _ (two_zpow_pos _).ne']

def sgn (neg : Bool) : ℚ := if neg then -1 else 1

theorem sgn_mul_self (a : Bool) : sgn a * sgn a = 1 := by cases a <;> simp [sgn]
theorem sgn_xor (a b : Bool) : sgn (a != b) = sgn a * sgn b := by cases a <;> cases b <;> simp [sgn]
theorem sgn_ne_zero (a : Bool) : sgn a ≠ 0 := left_ne_zero_of_mul_eq_one (sgn_mul_self a)
theorem abs_sgn (a : Bool) : |sgn a| = 1 := by cases a <;> simp [sgn]
theorem sgn_inv (a : Bool) : (sgn a)⁻¹ = sgn a := inv_eq_of_mul_eq_one_left (sgn_mul_self a)

theorem toRat_eq (b : Nat) : toRat b = sgn (signBit b) * (sig b : ℚ) * 2 ^ ulpExp b := by
  unfold toRat sgn; rw [twoPow_eq]

theorem toRat_of_sig {b : Nat} (h : sig b = 0) : toRat b = 0 := by
  rw [toRat_eq, h, Nat.cast_zero, mul_zero, zero_mul]

theorem toRat_zero : toRat 0 = 0 := toRat_of_sig rfl

/-- Setting the sign bit of a pattern below `2^31` negates the value and touches nothing else. -/
theorem toRat_signed (neg : Bool) {b c : Nat} (hb : b < 2 ^ 31) (hc : c = (if neg then 2 ^ 31 else 0) + b) :
    toRat c = sgn neg * toRat b ∧ c < 2 ^ 32 ∧ expField c = expField b := by
  cases neg
  · rw [if_neg Bool.false_ne_true, Nat.zero_add] at hc
    rw [hc, sgn, if_neg Bool.false_ne_true, one_mul]
    exact ⟨rfl, hb.trans (by decide), rfl⟩
  · rw [if_pos rfl] at hc
    have h0 := signBit_of_lt hb
    have h1 : signBit c = true := by
      rw [signBit, hc, Nat.add_div_left _ (Nat.two_pow_pos 31), Nat.div_eq_of_lt hb]; rfl
    have e : c = b + 2 ^ 23 * 256 := hc.trans (Nat.add_comm _ _)
    have h2 : expField c = expField b := by
      rw [expField, expField, e, Nat.add_mul_div_left _ _ (Nat.two_pow_pos 23), Nat.add_mod_right]
    have h3 : manField c = manField b := by
      rw [manField, manField, e, Nat.add_mul_mod_self_left]
    refine ⟨?_, hc ▸ Nat.add_lt_add_left hb _, h2⟩
    rw [toRat_eq, toRat_eq b, sig, sig, ulpExp, ulpExp, h0, h1, h2, h3, sgn, sgn, if_pos rfl,
      if_neg Bool.false_ne_true, one_mul, mul_assoc]

/-- A finite pattern approximating `x` to one rounding (relative error `≤ 2^-24`). -/
structure Approx (b : Nat) (x : ℚ) : Prop where
  rel : ∃ δ : ℚ, |δ| ≤ 2 ^ (-24 : Int) ∧ toRat b = x * (1 + δ)
  lt : b < 2 ^ 32
  finite : expField b ≠ 255

/-- `round` in terms of the signed value `x = ± n/d`: zero, or in the normal range. -/
theorem round_approx (neg : Bool) (n d : Nat) (hd : 0 < d) {x : ℚ} (hx : x = sgn neg * ((n : ℚ) / d))
    (h : x = 0 ∨ ((2 : ℚ) ^ (-126 : Int) ≤ |x| ∧ |x| < 2 ^ (127 : Int))) : Approx (round neg n d) x := by
  subst hx
  rw [round]
  rcases Nat.eq_zero_or_pos n with rfl | hn
  · obtain ⟨h1, h2, h3⟩ := toRat_signed neg (b := 0) (by decide) rfl
    rw [if_pos rfl]
    refine ⟨⟨0, abs_zero.trans_le (two_zpow_pos _).le, ?_⟩, h2, h3.trans_ne (by decide)⟩
    rw [h1, toRat_zero, Nat.cast_zero, zero_div, mul_zero, zero_mul]
  · have hpos : (0 : ℚ) < (n : ℚ) / d := div_pos (Rat.natCast_pos.mpr hn) (Rat.natCast_pos.mpr hd)
    rw [abs_mul, abs_sgn, one_mul, abs_of_pos hpos] at h
    obtain ⟨hlo, hhi⟩ := h.resolve_left (mul_ne_zero (sgn_ne_zero _) hpos.ne')
    obtain ⟨⟨δ, hδ, hv⟩, -, hlt, hf, -⟩ := roundPos_spec n d hn hd hlo hhi
    obtain ⟨h1, h2, h3⟩ := toRat_signed neg hlt rfl
    rw [if_neg hn.ne']
    exact ⟨⟨δ, hδ, by rw [h1, hv, mul_assoc]⟩, h2, h3.trans_ne hf⟩

theorem abs_intCast (i : Int) : |(i : ℚ)| = (i.natAbs : Nat) := by rw [Nat.cast_natAbs, Int.cast_abs]

theorem sgn_decide_neg (i : Int) : sgn (decide (i < 0)) * ((i.natAbs : ℚ) / (1 : Nat)) = i := by
  rw [Nat.cast_one, div_one, ← Int.cast_natCast, sgn]
  rcases lt_or_ge i 0 with h | h
  · rw [decide_eq_true h, if_pos rfl, Int.ofNat_natAbs_of_nonpos h.le, Int.cast_neg, neg_one_mul, neg_neg]
  · rw [decide_eq_false h.not_gt, if_neg Bool.false_ne_true, Int.natAbs_of_nonneg h, one_mul]

/-- `i as f32` denotes `i` up to one rounding. -/
theorem ofInt_approx (i : Int) (h : i.natAbs < 2 ^ 127) : Approx (ofInt i) i := by
  refine round_approx _ _ _ Nat.one_pos (sgn_decide_neg i).symm ?_
  rcases eq_or_ne i 0 with rfl | h0
  · exact Or.inl Int.cast_zero
  · rw [abs_intCast]
    exact Or.inr ⟨le_trans (by norm_num) (Nat.one_le_cast.mpr (Int.natAbs_pos.mpr h0)), natCast_lt_two_pow h⟩

theorem ofInt_exact (i : Int) (h : i.natAbs < 2 ^ 24) :
    toRat (ofInt i) = i ∧ ofInt i < 2 ^ 32 ∧ expField (ofInt i) ≠ 255 := by
  have ha := ofInt_approx i (h.trans (by norm_num))
  refine ⟨?_, ha.lt, ha.finite⟩
  rcases Nat.eq_zero_or_pos i.natAbs with h0 | hn
  · obtain ⟨δ, -, hv⟩ := ha.rel
    rw [hv, Int.natAbs_eq_zero.mp h0, Int.cast_zero, zero_mul]
  · obtain ⟨he1, -⟩ := expOf_spec i.natAbs 1 hn Nat.one_pos
    have hlo : (2 : ℚ) ^ (-126 : Int) ≤ (i.natAbs : ℚ) / (1 : Nat) := by
      rw [Nat.cast_one, div_one]; exact le_trans (by norm_num) (Nat.one_le_cast.mpr hn)
    have h24 : (i.natAbs : ℚ) / (1 : Nat) < 2 ^ (24 : Int) := by rw [Nat.cast_one, div_one]; exact natCast_lt_two_pow h
    have hhi : (i.natAbs : ℚ) / (1 : Nat) < 2 ^ (127 : Int) := h24.trans (by norm_num)
    -- the exponent is at most 23, so the unit in the last place `2^(e-23)` divides every integer
    have hE := two_zpow_lt (he1.trans_lt h24)
    rw [ofInt, round, if_neg hn.ne', (toRat_signed _ (roundPos_spec _ 1 hn Nat.one_pos hlo hhi).lt rfl).1,
      roundPos_exact _ 1 hn Nat.one_pos hlo hhi (i.natAbs * 2 ^ (23 - expOf i.natAbs 1).toNat) ?_, sgn_decide_neg]
    rw [show expOf i.natAbs 1 - 23 = -((23 - expOf i.natAbs 1).toNat : Int) by omega, zpow_neg, div_inv_eq_mul,
      zpow_natCast, Nat.cast_one, div_one, Nat.cast_mul, Nat.cast_pow, Nat.cast_ofNat]

theorem toRat_div_eq (a b : Nat) :
    toRat a / toRat b = sgn (signBit a != signBit b) *
      (((sig a * 2 ^ (ulpExp a - ulpExp b).toNat : Nat) : ℚ) / ((sig b * 2 ^ (-(ulpExp a - ulpExp b)).toNat : Nat) : ℚ)) := by
  -- `scale_cast` takes the exponent difference back out of numerator and denominator; the rest regroups into two `toRat_eq`
  rw [scale_cast, two_zpow_sub, sgn_xor, ← sgn_inv (signBit b), ← div_eq_mul_inv, ← mul_div_mul_comm,
    ← mul_div_mul_comm, ← mul_assoc, ← mul_assoc, ← toRat_eq, ← toRat_eq]

theorem toRat_mul_eq (a b : Nat) :
    toRat a * toRat b = sgn (signBit a != signBit b) *
      (((sig a * sig b * 2 ^ (ulpExp a + ulpExp b).toNat : Nat) : ℚ) / ((2 ^ (-(ulpExp a + ulpExp b)).toNat : Nat) : ℚ)) := by
  rw [Nat.cast_mul, mul_div_assoc, ← zpow_split, two_zpow_add, Nat.cast_mul, sgn_xor, toRat_eq a, toRat_eq b]
  ring

theorem div_approx (a b : Nat) (hb : sig b ≠ 0)
    (h : toRat a / toRat b = 0 ∨ ((2 : ℚ) ^ (-126 : Int) ≤ |toRat a / toRat b| ∧ |toRat a / toRat b| < 2 ^ (127 : Int))) :
    Approx (div a b) (toRat a / toRat b) :=
  round_approx _ _ _ (Nat.mul_pos (Nat.pos_of_ne_zero hb) (Nat.two_pow_pos _)) (toRat_div_eq a b) h

theorem mul_approx (a b : Nat)
    (h : toRat a * toRat b = 0 ∨ ((2 : ℚ) ^ (-126 : Int) ≤ |toRat a * toRat b| ∧ |toRat a * toRat b| < 2 ^ (127 : Int))) :
    Approx (mul a b) (toRat a * toRat b) :=
  round_approx _ _ _ (Nat.two_pow_pos _) (toRat_mul_eq a b) h

/-- `a / b` denotes the exact quotient of the two values up to one rounding. -/
theorem div_spec (a b : Nat) (hb : sig b ≠ 0)
    (h : sig a = 0 ∨ ((2 : ℚ) ^ (-126 : Int) ≤ |toRat a / toRat b| ∧ |toRat a / toRat b| < 2 ^ (127 : Int))) :
    Approx (div a b) (toRat a / toRat b) :=
  div_approx a b hb (h.imp_left fun h => by rw [toRat_of_sig h, zero_div])

/-- `a * b` denotes the exact product of the two values up to one rounding. -/
theorem mul_spec (a b : Nat)
    (h : sig a = 0 ∨ sig b = 0 ∨ ((2 : ℚ) ^ (-126 : Int) ≤ |toRat a * toRat b| ∧ |toRat a * toRat b| < 2 ^ (127 : Int))) :
    Approx (mul a b) (toRat a * toRat b) :=
  mul_approx a b <| by
    rcases h with h | h | h
    · left; rw [toRat_of_sig h, zero_mul]
    · left; rw [toRat_of_sig h, mul_zero]
    · exact Or.inr h

/-- The pattern `b` is finite and denotes `x · (1 + δ)` with `|δ| ≤ ε`. -/
structure Within (b : Nat) (x ε : ℚ) : Prop where
  rel : ∃ δ : ℚ, |δ| ≤ ε ∧ toRat b = x * (1 + δ)
  lt : b < 2 ^ 32
  finite : expField b ≠ 255

theorem Approx.within {b : Nat} {x : ℚ} (h : Approx b x) : Within b x (2 ^ (-24 : Int)) := ⟨h.rel, h.lt, h.finite⟩

theorem ofInt_within (i : Int) (h : i.natAbs < 2 ^ 24) : Within (ofInt i) i 0 :=
  have ⟨hv, hlt, hf⟩ := ofInt_exact i h
  ⟨⟨0, abs_zero.le, by rw [hv, add_zero, mul_one]⟩, hlt, hf⟩

theorem compose_err {δ1 δ2 ε u : ℚ} (h1 : |δ1| ≤ ε) (h2 : |δ2| ≤ u) : |δ1 + δ2 + δ1 * δ2| ≤ ε + u + ε * u :=
  calc |δ1 + δ2 + δ1 * δ2| ≤ |δ1| + |δ2| + |δ1| * |δ2| := abs_mul δ1 δ2 ▸ abs_add_three _ _ _
    _ ≤ ε + u + ε * u := add_le_add (add_le_add h1 h2) (mul_le_mul h1 h2 (abs_nonneg _) ((abs_nonneg _).trans h1))

/-- One more operation in a chain.  `a` denotes `A` to within `ε ≤ 1/2`, `A` is zero or of moderate
    magnitude, `k` is a factor of moderate magnitude, and `r` is a correct rounding of `toRat a * k`
    whenever that is zero or in the normal range (which it then is): `r` denotes `A * k` to within `ε`
    and one rounding more. -/
theorem Within.scale {a r : Nat} {A ε k : ℚ} (ha : Within a A ε) (hε : ε ≤ 1 / 2)
    (hA : A = 0 ∨ ((2 : ℚ) ^ (-40 : Int) ≤ |A| ∧ |A| ≤ 2 ^ (64 : Int)))
    (hk : (2 : ℚ) ^ (-24 : Int) ≤ |k| ∧ |k| ≤ 2 ^ (24 : Int))
    (hr : (toRat a * k = 0 ∨ ((2 : ℚ) ^ (-126 : Int) ≤ |toRat a * k| ∧ |toRat a * k| < 2 ^ (127 : Int))) →
      Approx r (toRat a * k)) :
    Within r (A * k) (ε + 2 ^ (-24 : Int) + ε * 2 ^ (-24 : Int)) := by
  obtain ⟨⟨δ1, hδ1, hav⟩, -, -⟩ := ha
  obtain ⟨⟨δ2, hδ2, hv⟩, hlt, hf⟩ := hr (by
    rcases hA with rfl | ⟨hA1, hA2⟩
    · left; rw [hav, zero_mul, zero_mul]
    · right
      obtain ⟨hd1, hd2⟩ := abs_le.mp (hδ1.trans hε)
      have hlo : 1 + -(1 / 2) ≤ 1 + δ1 := add_le_add_right hd1 1
      have h0 : 0 ≤ 1 + δ1 := le_trans (by norm_num) hlo
      rw [hav, abs_mul, abs_mul, abs_of_nonneg h0]
      constructor
      · calc (2 : ℚ) ^ (-126 : Int) ≤ 2 ^ (-40 : Int) * (1 + -(1 / 2)) * 2 ^ (-24 : Int) := by norm_num
          _ ≤ |A| * (1 + δ1) * |k| :=
            mul_le_mul (mul_le_mul hA1 hlo (by norm_num) (abs_nonneg _)) hk.1 (two_zpow_pos _).le
              (mul_nonneg (abs_nonneg _) h0)
      · calc |A| * (1 + δ1) * |k| ≤ 2 ^ (64 : Int) * (1 + 1 / 2) * 2 ^ (24 : Int) :=
            mul_le_mul (mul_le_mul hA2 (add_le_add_right hd2 1) h0 (two_zpow_pos _).le) hk.2 (abs_nonneg _) (by norm_num)
          _ < 2 ^ (127 : Int) := by norm_num)
  refine ⟨⟨δ1 + δ2 + δ1 * δ2, compose_err hδ1 hδ2, ?_⟩, hlt, hf⟩
  rw [hv, hav]; ring

theorem ofInt_const (c : Int) (hc : 0 < c) (hc2 : c.natAbs < 2 ^ 24) :
    toRat (ofInt c) = c ∧ sig (ofInt c) ≠ 0 ∧ (1 : ℚ) ≤ c ∧ (c : ℚ) ≤ 2 ^ (24 : Int) := by
  have hv := (ofInt_exact c hc2).1
  exact ⟨hv, mt toRat_of_sig (hv ▸ (Rat.intCast_pos.mpr hc).ne'), Int.cast_one_le_of_pos hc,
    (le_abs_self _).trans ((abs_intCast c).trans_le (natCast_le_two_pow hc2.le))⟩

/-- Dividing a value of moderate magnitude, known to relative error `ε ≤ 1/2`, by an integer constant
    below `2^24` adds one rounding. -/
theorem div_const_within (a : Nat) (A ε : ℚ) (c : Int) (hc : 0 < c) (hc2 : c.natAbs < 2 ^ 24)
    (ha : Within a A ε) (hε : ε ≤ 1 / 2)
    (hA : A = 0 ∨ ((2 : ℚ) ^ (-40 : Int) ≤ |A| ∧ |A| ≤ 2 ^ (64 : Int))) :
    Within (div a (ofInt c)) (A / c) (ε + 2 ^ (-24 : Int) + ε * 2 ^ (-24 : Int)) := by
  obtain ⟨hcv, hsb, h1, h2⟩ := ofInt_const c hc hc2
  have h0 : (0 : ℚ) < c := Rat.intCast_pos.mpr hc
  rw [div_eq_mul_inv]
  refine ha.scale hε hA ?_ fun h => ?_
  · rw [abs_inv, abs_of_pos h0, zpow_neg]
    exact ⟨inv_anti₀ h0 h2, (inv_le_one_of_one_le₀ h1).trans (by norm_num)⟩
  · rw [← hcv, ← div_eq_mul_inv] at h ⊢
    exact div_approx a _ hsb h

theorem mul_const_within (a : Nat) (A ε : ℚ) (c : Int) (hc : 0 < c) (hc2 : c.natAbs < 2 ^ 24)
    (ha : Within a A ε) (hε : ε ≤ 1 / 2)
    (hA : A = 0 ∨ ((2 : ℚ) ^ (-40 : Int) ≤ |A| ∧ |A| ≤ 2 ^ (64 : Int))) :
    Within (mul a (ofInt c)) (A * c) (ε + 2 ^ (-24 : Int) + ε * 2 ^ (-24 : Int)) := by
  obtain ⟨hcv, -, h1, h2⟩ := ofInt_const c hc hc2
  refine ha.scale hε hA ?_ fun h => ?_
  · rw [abs_of_pos (Rat.intCast_pos.mpr hc)]
    exact ⟨le_trans (by norm_num) h1, h2⟩
  · rw [← hcv] at h ⊢
    exact mul_approx a _ h

/-- An integer of at most 64 bits divided by a constant below `2^24` is zero or of the moderate magnitude
    that `div_const_within` and `mul_const_within` ask for. -/
theorem intCast_bounds (raw c : Int) (h : raw.natAbs < 2 ^ 64) (hc : 0 < c) (hc2 : c.natAbs < 2 ^ 24) :
    (raw : ℚ) / c = 0 ∨ ((2 : ℚ) ^ (-40 : Int) ≤ |(raw : ℚ) / c| ∧ |(raw : ℚ) / c| ≤ 2 ^ (64 : Int)) := by
  obtain ⟨-, -, h1, h2⟩ := ofInt_const c hc hc2
  have h0 : (0 : ℚ) < c := Rat.intCast_pos.mpr hc
  rcases eq_or_ne raw 0 with rfl | hne
  · left; rw [Int.cast_zero, zero_div]
  · right
    rw [abs_div, abs_of_pos h0, abs_intCast, le_div_iff₀ h0, div_le_iff₀ h0]
    constructor
    · calc (2 : ℚ) ^ (-40 : Int) * c ≤ 2 ^ (-40 : Int) * 2 ^ (24 : Int) :=
          mul_le_mul_of_nonneg_left h2 (two_zpow_pos _).le
        _ ≤ 1 := by norm_num
        _ ≤ _ := Nat.one_le_cast.mpr (Int.natAbs_pos.mpr hne)
    · exact (natCast_le_two_pow h.le).trans (le_mul_of_one_le_right (two_zpow_pos _).le h1)

/-- An exactly converted integer divided by a constant: one rounding. -/
theorem div_const_exact (raw c : Int) (h : raw.natAbs < 2 ^ 24) (hc : 0 < c) (hc2 : c.natAbs < 2 ^ 24) :
    Within (div (ofInt raw) (ofInt c)) ((raw : ℚ) / c) (2 ^ (-24 : Int)) := by
  have hb := intCast_bounds raw 1 (h.trans (by decide)) Int.one_pos (by decide)
  rw [Int.cast_one, div_one] at hb
  have := div_const_within _ _ 0 c hc hc2 (ofInt_within raw h) (by norm_num) hb
  rwa [zero_add, zero_mul, add_zero] at this

theorem two_roundings :
    (2 : ℚ) ^ (-24 : Int) + 2 ^ (-24 : Int) + 2 ^ (-24 : Int) * 2 ^ (-24 : Int) = 2 ^ (-23 : Int) + 2 ^ (-48 : Int) := by
  norm_num

end AisVerif.F32
