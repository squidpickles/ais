/-
  Histories.  The decode flag is an argument of each call, so the general history is `runD`, in which
  every line carries its own flag; `run` is `runD` with one flag for all lines (`runD_uniform`), and
  what is proved of `runD` holds of `run`.  The parser state never depends on a flag; the result of a
  line depends on the other lines through their bytes only, and on its own flag.
-/
import AisVerif.Lemmas.Step

namespace AisVerif

def runD (cfg : Cfg) : PState → List (Bytes × Bool) → List (Res Frag) × PState
  | st, [] => ([], st)
  | st, x :: ls =>
    let r := step cfg st x.1 x.2
    let rest := runD cfg r.1 ls
    (r.2 :: rest.1, rest.2)

theorem runD_cons (cfg : Cfg) (st : PState) (x : Bytes × Bool) (ls : List (Bytes × Bool)) :
    runD cfg st (x :: ls) =
      ((step cfg st x.1 x.2).2 :: (runD cfg (step cfg st x.1 x.2).1 ls).1, (runD cfg (step cfg st x.1 x.2).1 ls).2) := rfl

/-- **The parser state after a line does not depend on the decode flag of that line.** -/
theorem step_state_flag (cfg : Cfg) (st : PState) (line : Bytes) (d1 d2 : Bool) :
    (step cfg st line d1).1 = (step cfg st line d2).1 := by
  refine step_elim cfg st line d1 (fun e hp => ?_) (fun p hp => ?_) (fun raw s cks hp hc => ?_) (fun raw s hp => ?_)
  · rw [step_of_err cfg st d2 hp]
  · rw [step_of_panic cfg st d2 hp]
  · rw [step_of_mismatch cfg st d2 hp hc]
  · rw [step_of_parse cfg st d2 hp rfl]
    obtain ⟨st', h | ⟨m, h⟩ | ⟨d, h⟩⟩ := stepSentence_result cfg st s <;> rw [h d1, h d2]

theorem runD_uniform (cfg : Cfg) (d : Bool) (st : PState) (ls : List Bytes) :
    runD cfg st (ls.map (fun l => (l, d))) = run cfg d st ls := by
  induction ls generalizing st with
  | nil => rfl
  | cons l t ih =>
    simp only [List.map_cons, runD_cons, run]
    rw [ih]

/-- **The state reached by a history does not depend on any of its flags.** -/
theorem runD_state (cfg : Cfg) (d0 : Bool) (st : PState) (h : List (Bytes × Bool)) :
    (runD cfg st h).2 = (run cfg d0 st (h.map (·.1))).2 := by
  induction h generalizing st with
  | nil => rfl
  | cons x t ih =>
    simp only [List.map_cons, runD_cons, run]
    rw [ih, step_state_flag cfg st x.1 x.2 d0]

theorem runD_append (cfg : Cfg) (st : PState) (a b : List (Bytes × Bool)) :
    runD cfg st (a ++ b) =
      ((runD cfg st a).1 ++ (runD cfg (runD cfg st a).2 b).1, (runD cfg (runD cfg st a).2 b).2) := by
  induction a generalizing st with
  | nil => rfl
  | cons x t ih => simp only [List.cons_append, runD_cons, ih]

theorem runD_length (cfg : Cfg) (st : PState) (h : List (Bytes × Bool)) : (runD cfg st h).1.length = h.length := by
  induction h generalizing st with
  | nil => rfl
  | cons x t ih => simp only [runD_cons, List.length_cons, ih]

/-- The result of the line at position `a.length`: `parse` applied, with the line's own flag, to the state that
    the lines before it lead to — under ANY flags (`d0` is arbitrary). -/
theorem runD_result_at (cfg : Cfg) (d0 : Bool) (st : PState) (a b : List (Bytes × Bool)) (l : Bytes) (d : Bool) :
    (runD cfg st (a ++ (l, d) :: b)).1[a.length]? = some (step cfg (run cfg d0 st (a.map (·.1))).2 l d).2 := by
  rw [runD_append, ← runD_length cfg st a, List.getElem?_append_right (Nat.le_refl _), Nat.sub_self, ← runD_state]
  rfl

theorem run_length (cfg : Cfg) (d : Bool) (st : PState) (ls : List Bytes) : (run cfg d st ls).1.length = ls.length := by
  rw [← runD_uniform, runD_length, List.length_map]

theorem run_append (cfg : Cfg) (dec : Bool) (st : PState) (a b : List Bytes) :
    run cfg dec st (a ++ b) =
      ((run cfg dec st a).1 ++ (run cfg dec (run cfg dec st a).2 b).1, (run cfg dec (run cfg dec st a).2 b).2) := by
  simp only [← runD_uniform, List.map_append, runD_append]

theorem run_result_at (cfg : Cfg) (d : Bool) (st : PState) (a b : List Bytes) (l : Bytes) :
    (run cfg d st (a ++ l :: b)).1[a.length]? = some (step cfg (run cfg d st a).2 l d).2 := by
  rw [run_append, ← run_length cfg d st a, List.getElem?_append_right (Nat.le_refl _), Nat.sub_self]
  rfl

theorem runD_result_eq_run (cfg : Cfg) (st : PState) (a b : List (Bytes × Bool)) (l : Bytes) (d : Bool) :
    (runD cfg st (a ++ (l, d) :: b)).1[a.length]? =
      (run cfg d st ((a ++ (l, d) :: b).map (·.1))).1[a.length]? := by
  have := run_result_at cfg d st (a.map (·.1)) (b.map (·.1)) l
  rw [List.length_map] at this
  rw [runD_result_at cfg d, List.map_append, List.map_cons, this]

end AisVerif
