/-
  Each nom combinator of the sentence body, characterised once: `p i = ok (rest, a) ↔ …` (those of the envelope,
  `hexU32`, `delimiter`, `tagBlock`, are in Outer.lean).
-/
import AisVerif.Model.Sentence

namespace AisVerif

/-- `l` splits as its longest `p`-prefix and the rest. -/
theorem span_iff {α : Type} {p : α → Bool} {l a r : List α} :
    l.takeWhile p = a ∧ l.dropWhile p = r ↔
      l = a ++ r ∧ (∀ x ∈ a, p x = true) ∧ ∀ x, r.head? = some x → p x = false := by
  constructor
  · rintro ⟨rfl, rfl⟩
    refine ⟨List.takeWhile_append_dropWhile.symm, fun x hx => List.all_eq_true.mp List.all_takeWhile x hx, fun x hx => ?_⟩
    have := List.head?_dropWhile_not p l
    rw [hx] at this
    simpa using this
  · rintro ⟨rfl, ha, hr⟩
    rw [List.takeWhile_append_of_pos ha, List.dropWhile_append_of_pos ha]
    cases r with
    | nil => simp
    | cons x r => simp [hr x rfl]

theorem tag_eq_ok {t i rest x : Bytes} : tag t i = ok (rest, x) ↔ i = t ++ rest ∧ x = t := by
  unfold tag
  constructor
  · intro h
    split at h <;> cases h
    next hp => obtain ⟨s, rfl⟩ := List.isPrefixOf_iff_prefix.mp hp; exact ⟨by rw [List.drop_left], rfl⟩
  · rintro ⟨rfl, rfl⟩
    rw [if_pos (List.isPrefixOf_iff_prefix.mpr (List.prefix_append x rest)), List.drop_left]

theorem takeBytes_eq_ok {n : Nat} {i rest a : Bytes} :
    takeBytes n i = ok (rest, a) ↔ i = a ++ rest ∧ a.length = n := by
  unfold takeBytes
  constructor
  · intro h
    split at h <;> cases h
    next hn => exact ⟨(List.take_append_drop n i).symm, List.length_take_of_le (Nat.le_of_not_lt hn)⟩
  · rintro ⟨rfl, rfl⟩
    rw [if_neg (by simp), List.drop_left, List.take_left]

theorem not_mem_takeWhile_ne (b : UInt8) (i : Bytes) : b ∉ i.takeWhile (· != b) :=
  fun h => by simpa using (span_iff.mp ⟨rfl, rfl⟩).2.1 b h

theorem bne_of_not_mem {b : UInt8} {l : Bytes} (h : b ∉ l) : ∀ a ∈ l, (a != b) = true :=
  fun _ ha => bne_iff_ne.mpr fun e => h (e ▸ ha)

theorem takeUntil_eq_ok {b : UInt8} {i rest pre : Bytes} :
    takeUntil b i = ok (rest, pre) ↔ i = pre ++ rest ∧ b ∉ pre ∧ rest.head? = some b := by
  unfold takeUntil
  constructor
  · intro h
    split at h <;> cases h
    next hm =>
    obtain ⟨e, -, hr⟩ := span_iff.mp ⟨rfl, rfl⟩
    have hb := not_mem_takeWhile_ne b i
    refine ⟨e, hb, ?_⟩
    rw [e, List.mem_append] at hm
    cases hd : i.dropWhile (· != b) with
    | nil => simp [hd] at hm; exact absurd hm hb
    | cons x r => simpa using hr x (by rw [hd]; rfl)
  · rintro ⟨rfl, hp, hr⟩
    obtain ⟨h1, h2⟩ := span_iff (p := (· != b)).mpr ⟨rfl, bne_of_not_mem hp,
      fun x hx => by simp [Option.some.inj (hr ▸ hx)]⟩
    rw [h1, h2, if_pos (List.mem_append_right _ (List.mem_of_mem_head? hr))]

def AllDigits (ds : Bytes) : Prop := ∀ d ∈ ds, isDigit d = true

def NoLeadDigit (rest : Bytes) : Prop := ∀ d, rest.head? = some d → isDigit d = false

theorem digit1_eq_ok {i rest ds : Bytes} :
    digit1 i = ok (rest, ds) ↔ i = ds ++ rest ∧ ds ≠ [] ∧ AllDigits ds ∧ NoLeadDigit rest := by
  unfold digit1
  constructor
  · intro h
    simp only [] at h
    split at h <;> cases h
    next hne => obtain ⟨e, hp, hr⟩ := span_iff.mp ⟨rfl, rfl⟩; exact ⟨e, hne, hp, hr⟩
  · rintro ⟨rfl, hne, hp, hr⟩
    obtain ⟨h1, h2⟩ := span_iff.mpr ⟨rfl, hp, hr⟩
    simp only [h1, h2, if_neg hne]

theorem parseU8Digit_eq_ok {i rest : Bytes} {v : Nat} :
    parseU8Digit i = ok (rest, v) ↔
      ∃ ds, i = ds ++ rest ∧ (ds ≠ [] ∧ AllDigits ds ∧ decVal ds ≤ 255) ∧ NoLeadDigit rest ∧ v = decVal ds := by
  unfold parseU8Digit
  rw [bind_pair_eq_ok]
  constructor
  · rintro ⟨_, ds, h1, h⟩
    obtain ⟨rfl, hne, hd, hr⟩ := digit1_eq_ok.mp h1
    dsimp only at h
    split at h <;> cases h
    exact ⟨ds, rfl, ⟨hne, hd, ‹_›⟩, hr, rfl⟩
  · rintro ⟨ds, rfl, ⟨hne, hd, hv⟩, hr, rfl⟩
    exact ⟨rest, ds, digit1_eq_ok.mpr ⟨rfl, hne, hd, hr⟩, if_pos hv⟩

theorem opt_eq_ok {α : Type} {p : Bytes → Res (Bytes × α)} {i rest : Bytes} {o : Option α} :
    opt p i = ok (rest, o) ↔
      (∃ a, p i = ok (rest, a) ∧ o = some a) ∨ (∃ k, p i = err (.nomError k)) ∧ rest = i ∧ o = none := by
  unfold opt
  constructor
  · intro h
    split at h
    · next h1 => cases h; exact .inl ⟨_, h1, rfl⟩
    · next k h1 => cases h; exact .inr ⟨⟨k, h1⟩, rfl, rfl⟩
    · cases h
    · cases h
  · rintro (⟨a, h, rfl⟩ | ⟨⟨k, h⟩, rfl, rfl⟩) <;> rw [h]

/-- An optional number before a byte that is no digit: the digits present, possibly none. -/
theorem optU8_eq_ok {i rest : Bytes} {o : Option Nat} (hr : NoLeadDigit rest) :
    opt parseU8Digit i = ok (rest, o) ↔
      ∃ ds, i = ds ++ rest ∧ (ds = [] ∨ AllDigits ds ∧ decVal ds ≤ 255) ∧
        o = if ds = [] then none else some (decVal ds) := by
  rw [opt_eq_ok]
  constructor
  · rintro (⟨v, h, rfl⟩ | ⟨-, rfl, rfl⟩)
    · obtain ⟨ds, rfl, ⟨hne, hd⟩, -, rfl⟩ := parseU8Digit_eq_ok.mp h
      exact ⟨ds, rfl, Or.inr hd, by rw [if_neg hne]⟩
    · exact ⟨[], rfl, Or.inl rfl, rfl⟩
  · rintro ⟨ds, rfl, hd, rfl⟩
    by_cases hne : ds = []
    · subst hne
      refine Or.inr ⟨⟨.digit, ?_⟩, rfl, rfl⟩
      unfold parseU8Digit digit1
      rw [List.nil_append, (span_iff.mpr ⟨(List.nil_append rest).symm, nofun, hr⟩).1]; rfl
    · exact Or.inl ⟨_, parseU8Digit_eq_ok.mpr ⟨ds, rfl, ⟨hne, hd.resolve_left hne⟩, hr, rfl⟩, by rw [if_neg hne]⟩

end AisVerif
