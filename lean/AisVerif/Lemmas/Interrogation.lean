/-
  The specification's type-15 decoder by what it reads: `Spec.interMsg` and `Spec.station` have a branch per
  number of bits left, but what they read first and where they end can be said whatever the branch
  (`interMsg_fst/_snd`, `station_lookup`, `station_snd`); `Spec.decodeT15` for one station and for two.
-/
import AisVerif.Lemmas.Many
import AisVerif.Spec.Decode

namespace AisVerif
open Spec

theorem interMsg_fst (bs : List UInt8) (p : Nat) :
    ∃ v, (Spec.interMsg bs p).1 = [(.messages_type, .nat (field bs p 6)), (.messages_slot_offset, v)] := by
  unfold Spec.interMsg; split <;> exact ⟨_, rfl⟩

theorem interMsg_snd (bs : List UInt8) (p : Nat) :
    (p + 18 ≤ 8 * bs.length ∧ (Spec.interMsg bs p).2 = p + 18) ∨
      (8 * bs.length < p + 18 ∧ (Spec.interMsg bs p).2 = p + 6) := by
  unfold Spec.interMsg
  simp only [le_sub_iff (show 0 < 12 by decide)]
  split
  · exact .inl ⟨‹_›, rfl⟩
  · exact .inr ⟨Nat.lt_of_not_le ‹_›, rfl⟩

theorem renderStation_lookup_idx (bs : List UInt8) (q : Nat) {msgs : List (List (Key × Val))} {i : Nat}
    {rec : List (Key × Val)} (k : Key) (h : msgs[i]? = some rec) :
    (Spec.renderStation bs q msgs).lookup (.idx k i) = rec.lookup k :=
  lookup_idx_indexed k h

theorem renderStations_get_idx (bs : List UInt8) {sts : List (List (Key × Val))} {i : Nat}
    {rec : List (Key × Val)} (k : Key) (h : sts[i]? = some rec) :
    (Spec.renderStations bs sts).get (.idx k i) = rec.lookup k :=
  lookup_idx_indexed k h

theorem station_fst (bs : List UInt8) (q : Nat) :
    ∃ rest, (Spec.station bs q).1 = Spec.renderStation bs q ((Spec.interMsg bs (q + 30)).1 :: rest) := by
  unfold Spec.station
  dsimp only
  split
  · split <;> exact ⟨_, rfl⟩
  · exact ⟨_, rfl⟩

theorem station_lookup (bs : List UInt8) (q : Nat) :
    (Spec.station bs q).1.lookup .stations_mmsi = some (.nat (field bs q 30)) ∧
    (Spec.station bs q).1.lookup (.idx .messages_type 0) = some (.nat (field bs (q + 30) 6)) := by
  obtain ⟨rest, h⟩ := station_fst bs q
  obtain ⟨v, hv⟩ := interMsg_fst bs (q + 30)
  rw [h]
  exact ⟨rfl, (renderStation_lookup_idx bs q _ rfl).trans (by rw [hv]; rfl)⟩

/-- A station is complete (68 bits), or ends earlier and leaves fewer than 12 bits. -/
theorem station_snd (bs : List UInt8) (q : Nat) :
    (Spec.station bs q).2 = q + 68 ∨
      ((Spec.station bs q).2 < q + 68 ∧ 8 * bs.length < (Spec.station bs q).2 + 12) := by
  have b1 := interMsg_snd bs (q + 30)
  unfold Spec.station
  simp only [le_sub_iff (show 0 < 8 by decide)]
  split
  · have b2 := interMsg_snd bs ((Spec.interMsg bs (q + 30)).2 + 2)
    omega
  · omega

theorem decodeT15_one (bs : List UInt8) (hL : 8 * bs.length < 138) :
    Spec.decodeT15 bs = ok (Spec.renderStations bs [(Spec.station bs 40).1]) := by
  have := station_snd bs 40
  unfold Spec.decodeT15; rw [if_neg (by omega)]

theorem decodeT15_two (bs : List UInt8) (hL : 146 ≤ 8 * bs.length) :
    Spec.decodeT15 bs = ok (Spec.renderStations bs [(Spec.station bs 40).1, (Spec.station bs 110).1]) := by
  have : (Spec.station bs 40).2 = 108 := by have := station_snd bs 40; omega
  unfold Spec.decodeT15; rw [this, if_pos (by omega), if_pos (by omega)]

end AisVerif
