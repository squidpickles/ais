/-
  The abstract group automaton `Spec.gstep` by cases (`gstep_cases`), and `AisParser::parse` after the checksum
  gate refining it, one step at a time.
-/
import AisVerif.Lemmas.Step
import AisVerif.Lemmas.Outer

namespace AisVerif
open Spec

/-- The concrete state represents the abstract one. -/
def Rel (st : PState) (g : Option Group) : Prop :=
  match g with
  | none => st = ⟨none, 0, []⟩
  | some o => st = ⟨o.id, o.last, o.parts.flatten⟩ ∧ 1 ≤ o.last

/-- How an outcome of the automaton shows in the result of `parse`. -/
def Matches (cfg : Cfg) (dec : Bool) (s : Sentence) (st st' : PState) (o : Outcome) (r : Res Frag) : Prop :=
  match o with
  | .incomplete => r = ok (.incomplete s)
  | .complete d => r = (decodeInto cfg dec { s with data := d }).map Frag.complete
  | .reject => st' = st ∧ ∃ m, r = err (.text m)

/-- The five things the automaton does, each with the condition under which it does it: open a group, pass
    an unfragmented sentence through, extend the open group, deliver and close it, or reject and change nothing. -/
theorem gstep_cases (cap : Option Nat) (g : Option Group) (nf fn : Nat) (id : Option Nat) (data : List UInt8) :
    (fn = 1 ∧ fn < nf ∧ gstep cap g nf fn id data = (some ⟨id, 1, [data]⟩, .incomplete)) ∨
    (nf = 1 ∧ ¬ fn < nf ∧ gstep cap g nf fn id data = (g, .complete data)) ∨
    (∃ o, g = some o ∧ (o.id = id ∧ o.last + 1 = fn ∧ fits cap (o.parts.flatten.length + data.length)) ∧
      ((fn < nf ∧ fn ≠ 1 ∧ gstep cap g nf fn id data = (some ⟨id, fn, o.parts ++ [data]⟩, .incomplete)) ∨
       (¬ fn < nf ∧ nf ≠ 1 ∧ gstep cap g nf fn id data = (none, .complete (o.parts ++ [data]).flatten)))) ∨
    (((fn < nf ∧ fn ≠ 1) ∨ (¬ fn < nf ∧ nf ≠ 1)) ∧
      (∀ o, g = some o → ¬ (o.id = id ∧ o.last + 1 = fn ∧ fits cap (o.parts.flatten.length + data.length))) ∧
      gstep cap g nf fn id data = (g, .reject)) := by
  unfold gstep
  by_cases hm : fn < nf
  · rw [if_pos hm]
    by_cases h1 : fn = 1
    · rw [if_pos h1]; exact .inl ⟨h1, hm, rfl⟩
    · rw [if_neg h1]
      cases g with
      | none => exact .inr (.inr (.inr ⟨.inl ⟨hm, h1⟩, nofun, rfl⟩))
      | some o =>
        by_cases hc : o.id = id ∧ o.last + 1 = fn ∧ fits cap (o.parts.flatten.length + data.length)
        · exact .inr (.inr (.inl ⟨o, rfl, hc, .inl ⟨hm, h1, if_pos hc⟩⟩))
        · exact .inr (.inr (.inr ⟨.inl ⟨hm, h1⟩, fun _ h => Option.some.inj h ▸ hc, if_neg hc⟩))
  · rw [if_neg hm]
    by_cases hn : nf = 1
    · rw [if_pos hn]; exact .inr (.inl ⟨hn, hm, rfl⟩)
    · rw [if_neg hn]
      cases g with
      | none => exact .inr (.inr (.inr ⟨.inr ⟨hm, hn⟩, nofun, rfl⟩))
      | some o =>
        by_cases hc : o.id = id ∧ o.last + 1 = fn ∧ fits cap (o.parts.flatten.length + data.length)
        · exact .inr (.inr (.inl ⟨o, rfl, hc, .inr ⟨hm, hn, if_pos hc⟩⟩))
        · exact .inr (.inr (.inr ⟨.inr ⟨hm, hn⟩, fun _ h => Option.some.inj h ▸ hc, if_neg hc⟩))

/-- **One step of the refinement.** For a validly numbered sentence whose own payload fits the
    buffer, the concrete step simulates the abstract one. -/
theorem stepSentence_refines (cfg : Cfg) (dec : Bool) (st : PState) (g : Option Group) (s : Sentence)
    (hR : Rel st g) (hv : 1 ≤ s.fragment_number ∧ s.fragment_number ≤ s.num_fragments)
    (hcap : fits (capOf cfg) s.data.length) :
    Rel (stepSentence cfg st s dec).1 (gstep (capOf cfg) g s.num_fragments s.fragment_number s.message_id s.data).1 ∧
    Matches cfg dec s st (stepSentence cfg st s dec).1
      (gstep (capOf cfg) g s.num_fragments s.fragment_number s.message_id s.data).2 (stepSentence cfg st s dec).2 := by
  rcases gstep_cases (capOf cfg) g s.num_fragments s.fragment_number s.message_id s.data with
    ⟨h1, hm, hg⟩ | ⟨hn, hm, hg⟩ | ⟨o, rfl, hc, ⟨hm, h1, hg⟩ | ⟨hm, hn, hg⟩⟩ | ⟨hfrag, hno, hg⟩ <;> rw [hg]
  · rw [stepSentence_first cfg dec st s hm h1 hcap]
    exact ⟨⟨by simp, Nat.le_refl 1⟩, rfl⟩
  · rw [stepSentence_unfrag cfg dec st s hm hn]
    exact ⟨hR, rfl⟩
  · obtain ⟨rfl, -⟩ := hR
    rw [stepSentence_next cfg dec ⟨o.id, o.last, o.parts.flatten⟩ s hm h1 hc]
    exact ⟨⟨by simp [hc.1], hv.1⟩, rfl⟩
  · obtain ⟨rfl, -⟩ := hR
    rw [stepSentence_final cfg dec ⟨o.id, o.last, o.parts.flatten⟩ s hm hn hc]
    exact ⟨rfl, by simp [Matches]⟩
  · have hnc : ¬ Continues cfg st s := by
      cases g with
      -- the idle state is continued only by a fragment numbered 1, and the automaton rejects such a one only when
      -- `num_fragments = 0`; `hv.2` rules that out (the code delivers a sentence numbered "1 of 0" as a message)
      | none => subst hR; intro hc; have := hc.2.1; simp at this; omega
      | some o => obtain ⟨rfl, -⟩ := hR; exact hno o rfl
    obtain ⟨m, h⟩ := stepSentence_reject cfg dec st s hfrag hnc
    rw [h]
    exact ⟨hR, rfl, m, rfl⟩

theorem parsed_fits {cfg : Cfg} {line raw : Bytes} {s : Sentence} {cks : Nat}
    (h : parseNmeaSentence cfg line = ok (raw, s, cks)) : fits (capOf cfg) s.data.length := by
  obtain ⟨b, hwf, -, rfl⟩ := parsed_body h
  exact (fits_iff cfg _).mpr ((capTest_iff cfg _).mpr hwf.cap)

end AisVerif
