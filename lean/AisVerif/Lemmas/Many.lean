/-
  Lists of fixed-width elements.  `many_m_n(1, MAX, elem)` reads the complete elements present, capped at MAX
  and at least one: `elemsFrom` of that many.  The records read are then stored under indexed keys
  (`indexed`: the proofs' name for the `zipIdx.flatMap` that model and specification spell out; lemmas about it apply to them by unfolding).
-/
import AisVerif.Lemmas.Take
import AisVerif.Model.MsgB

namespace AisVerif

theorem elemsFrom_length {α : Type} (elem : List UInt8 → Nat → α) (bs : List UInt8) (w : Nat) :
    ∀ n q, (elemsFrom elem bs w q n).length = n
  | 0, _ => rfl
  | n + 1, q => congrArg (· + 1) (elemsFrom_length elem bs w n (q + w))

theorem elemsFrom_getElem? {α : Type} (elem : List UInt8 → Nat → α) (bs : List UInt8) (w : Nat) :
    ∀ n q i, (elemsFrom elem bs w q n)[i]? = if i < n then some (elem bs (q + w * i)) else none
  | 0, _, _ => rfl
  | n + 1, q, 0 => rfl
  | n + 1, q, i + 1 => by
    simp only [elemsFrom, List.getElem?_cons_succ, elemsFrom_getElem? elem bs w n, Nat.add_lt_add_iff_right,
      Nat.mul_succ, Nat.add_assoc, Nat.add_comm w]

/-! ### Records under indexed keys

`flattenList`, `parseStation`, `parseT15` and their specifications all store a list of records by
putting field `k` of record `i` under `Key.idx k i`; looking such a key up finds record `i`, then `k`. -/

def indexed (items : List (List (Key × Val))) : List (Key × Val) :=
  items.zipIdx.flatMap fun (rec, i) => rec.map fun (k, v) => (Key.idx k i, v)

theorem beq_idx (a b : Key) (i j : Nat) : (Key.idx a i == Key.idx b j) = (a == b && i == j) := by
  rw [Bool.eq_iff_iff]; simp only [beq_iff_eq, Bool.and_eq_true, Key.idx.injEq]

theorem lookup_map_idx (rec : List (Key × Val)) (k : Key) (i j : Nat) :
    (rec.map fun (k, v) => (Key.idx k i, v)).lookup (Key.idx k j) = if j = i then rec.lookup k else none := by
  induction rec with
  | nil => simp only [List.map_nil, List.lookup_nil, ite_self]
  | cons kv rest ih =>
    obtain ⟨k', v⟩ := kv
    simp only [List.map_cons, List.lookup_cons, ih, beq_idx]
    by_cases h : j = i
    · simp only [h, BEq.rfl, Bool.and_true, if_true]
    · simp only [h, beq_false_of_ne h, Bool.and_false, if_false]

theorem lookup_idx_zipIdx (items : List (List (Key × Val))) (k : Key) : ∀ n j,
    ((items.zipIdx n).flatMap fun (rec, i) => rec.map fun (k, v) => (Key.idx k i, v)).lookup (Key.idx k j) =
      if n ≤ j then items[j - n]?.bind (·.lookup k) else none := by
  induction items with
  | nil => intro n j; simp
  | cons rec rest ih =>
    intro n j
    rw [List.zipIdx_cons, List.flatMap_cons, List.lookup_append, lookup_map_idx, ih]
    rcases Nat.lt_trichotomy j n with h | rfl | h
    · rw [if_neg (Nat.ne_of_lt h), if_neg (Nat.not_le_of_lt (Nat.lt_succ_of_lt h)), if_neg (Nat.not_le_of_lt h)]; rfl
    · rw [if_pos rfl, if_neg (Nat.not_succ_le_self _), if_pos (Nat.le_refl _), Nat.sub_self]; exact Option.or_none
    · rw [if_neg (Nat.ne_of_gt h), if_pos (Nat.succ_le_of_lt h), if_pos (Nat.le_of_lt h),
        ← Nat.sub_add_cancel (Nat.sub_pos_of_lt h)]; rfl

theorem lookup_idx_indexed {items : List (List (Key × Val))} {i : Nat} {rec : List (Key × Val)} (k : Key)
    (h : items[i]? = some rec) : (indexed items).lookup (Key.idx k i) = rec.lookup k := by
  rw [indexed, lookup_idx_zipIdx items k 0 i, if_pos (Nat.zero_le i), Nat.sub_zero, h, Option.bind_some]

theorem manyLoop_spec {α : Type} (p : Cur → Res (α × Cur)) (elem : List UInt8 → Nat → α) (bs : List UInt8)
    (w : Nat) (hw : 0 < w)
    (hp : ∀ q, p ⟨bs, q⟩ = if q + w ≤ 8 * bs.length then ok (elem bs q, ⟨bs, q + w⟩) else err (.nomError .eof)) :
    ∀ (k count q : Nat) (acc : List α), 0 < count + k →
      manyLoop p 1 k count ⟨bs, q⟩ acc =
        if count + min k ((8 * bs.length - q) / w) < 1 then err (.nomError .eof)
        else ok (acc ++ elemsFrom elem bs w q (min k ((8 * bs.length - q) / w)),
                 ⟨bs, q + w * min k ((8 * bs.length - q) / w)⟩)
  | 0, count, q, acc, h => by
    rw [Nat.zero_min, if_neg (Nat.not_lt.2 h)]
    simp only [manyLoop, elemsFrom, List.append_nil, Nat.mul_zero, Nat.add_zero]
  | k + 1, count, q, acc, _ => by
    unfold manyLoop
    rw [hp q]
    by_cases hfit : q + w ≤ 8 * bs.length
    · -- one element read: one more than what the rest holds
      have hq : q < q + w := Nat.lt_add_of_pos_right hw
      rw [if_pos hfit, Nat.div_eq_sub_div hw ((le_sub_iff hw).2 hfit), ← Nat.sub_add_eq, Nat.add_min_add_right]
      dsimp only
      rw [Cur.remaining_mk, Cur.remaining_mk,
        if_neg (Nat.ne_of_lt (Nat.sub_lt_sub_left (Nat.lt_of_lt_of_le hq hfit) hq)),
        manyLoop_spec p elem bs w hw hp k (count + 1) _ _ (Nat.add_pos_left count.succ_pos k)]
      simp only [elemsFrom, List.append_assoc, List.singleton_append, Nat.mul_succ, Nat.add_assoc, Nat.add_comm w,
        Nat.add_comm 1]
    · rw [if_neg hfit, Nat.div_eq_of_lt ((sub_lt_iff hw).2 hfit), Nat.min_zero]
      simp only [elemsFrom, List.append_nil, Nat.mul_zero, Nat.add_zero]

theorem manyMN_1_4_eq {α : Type} {p : Cur → Res (α × Cur)} {elem : List UInt8 → Nat → α} {bs : List UInt8}
    {w : Nat}
    (hp : ∀ q, p ⟨bs, q⟩ = if q + w ≤ 8 * bs.length then ok (elem bs q, ⟨bs, q + w⟩) else err (.nomError .eof))
    (hw : 0 < w) (q : Nat) :
    manyMN 1 4 p ⟨bs, q⟩ =
      if q + w ≤ 8 * bs.length then
        ok (elemsFrom elem bs w q (min 4 ((8 * bs.length - q) / w)), ⟨bs, q + w * min 4 ((8 * bs.length - q) / w)⟩)
      else err (.nomError .eof) := by
  unfold manyMN
  rw [if_neg (by decide), manyLoop_spec p elem bs w hw hp 4 0 q [] (by decide)]
  -- no element was read iff not even the first fits
  simp only [Nat.zero_add, Nat.lt_one_iff, Nat.min_eq_zero_iff, Nat.div_eq_zero_iff_lt hw, sub_lt_iff hw,
    Nat.succ_ne_zero, false_or, ite_not, List.nil_append]

theorem manyMN_1_4_spec {α : Type} (p : Cur → Res (α × Cur)) (elem : List UInt8 → Nat → α) (bs : List UInt8)
    (w : Nat) (hw : 0 < w)
    (hp : ∀ q, p ⟨bs, q⟩ = if q + w ≤ 8 * bs.length then ok (elem bs q, ⟨bs, q + w⟩) else err (.nomError .eof))
    (q : Nat) (hq : q ≤ 8 * bs.length) :
    manyMN 1 4 p ⟨bs, q⟩ =
      if (8 * bs.length - q) / w < 1 then err (.nomError .eof)
      else ok (elemsFrom elem bs w q (min 4 ((8 * bs.length - q) / w)),
               ⟨bs, q + w * min 4 ((8 * bs.length - q) / w)⟩) := by
  simp only [manyMN_1_4_eq hp hw q, Nat.lt_one_iff, Nat.div_eq_zero_iff_lt hw, sub_lt_iff hw, ite_not]

end AisVerif
