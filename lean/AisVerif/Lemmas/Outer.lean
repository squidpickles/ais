/-
  `parse_nmea_sentence`: exactly the framed lines `[\tags\](!|$)<body>*<hex…>`.
-/
import AisVerif.Lemmas.Body

namespace AisVerif

/-- The prefix before the start delimiter: nothing, or a tag block `\ … \`. -/
def PreOK (pre : Bytes) : Prop := pre = [] ∨ ∃ tb, pre = [0x5C] ++ tb ++ [0x5C] ∧ (0x5C : UInt8) ∉ tb

theorem tagBlock_eq_ok {i rest : Bytes} {u : Unit} :
    tagBlock i = ok (rest, u) ↔ ∃ tb, i = [0x5C] ++ tb ++ [0x5C] ++ rest ∧ (0x5C : UInt8) ∉ tb := by
  unfold tagBlock
  simp (config := { singlePass := true }) only [↓bind_pair_eq_ok, ↓Res.ok.injEq, tag_eq_ok, takeUntil_eq_ok, Prod.mk.injEq]
  constructor
  · rintro ⟨_, _, ⟨rfl, -⟩, _, tb, ⟨rfl, htb, -⟩, _, _, ⟨rfl, -⟩, rfl, -⟩
    exact ⟨tb, by simp only [List.append_assoc], htb⟩
  · rintro ⟨tb, rfl, htb⟩
    exact ⟨_, _, ⟨by simp only [List.append_assoc], rfl⟩, _, _, ⟨rfl, htb, rfl⟩, _, _, ⟨rfl, rfl⟩, rfl, rfl⟩

theorem delimiter_eq_ok {i rest x : Bytes} :
    delimiter i = ok (rest, x) ↔ ∃ d : UInt8, (d = 0x21 ∨ d = 0x24) ∧ i = d :: rest ∧ x = [d] := by
  constructor
  · intro h
    unfold delimiter at h
    split at h
    · next h1 => cases h; obtain ⟨rfl, rfl⟩ := tag_eq_ok.mp h1; exact ⟨_, .inl rfl, rfl, rfl⟩
    · obtain ⟨rfl, rfl⟩ := tag_eq_ok.mp h; exact ⟨_, .inr rfl, rfl, rfl⟩
    · next hne _ => exact absurd h (hne _)
  · rintro ⟨d, rfl | rfl, rfl, rfl⟩ <;> rfl

theorem optTagBlock_eq_ok {i rest : Bytes} {d : UInt8} {o : Option Unit} (hd : d = 0x21 ∨ d = 0x24) :
    opt tagBlock i = ok (d :: rest, o) ↔ ∃ pre, PreOK pre ∧ i = pre ++ d :: rest ∧ o = if pre = [] then none else some () := by
  rw [opt_eq_ok]
  constructor
  · rintro (⟨u, h, rfl⟩ | ⟨-, rfl, rfl⟩)
    · obtain ⟨tb, rfl, htb⟩ := tagBlock_eq_ok.mp h
      exact ⟨_, Or.inr ⟨tb, rfl, htb⟩, rfl, by simp⟩
    · exact ⟨[], Or.inl rfl, rfl, rfl⟩
  · rintro ⟨pre, hp | ⟨tb, rfl, htb⟩, rfl, rfl⟩
    · subst hp
      refine Or.inr ⟨⟨.tag, ?_⟩, rfl, rfl⟩
      rcases hd with rfl | rfl <;> rfl
    · exact Or.inl ⟨(), tagBlock_eq_ok.mpr ⟨tb, rfl, htb⟩, by simp⟩

theorem hexU32_spec (i : Bytes) :
    hexU32 i = if i.takeWhile isHexDigit = [] then err (.nomError .hexDigit)
               else ok (i.drop ((i.takeWhile isHexDigit).take 8).length, hexVal ((i.takeWhile isHexDigit).take 8)) := rfl

theorem hexU32_eq_ok {i rest : Bytes} {v : Nat} :
    hexU32 i = ok (rest, v) ↔ i.takeWhile isHexDigit ≠ [] ∧
      i.drop ((i.takeWhile isHexDigit).take 8).length = rest ∧ hexVal ((i.takeWhile isHexDigit).take 8) = v := by
  rw [hexU32_spec, ite_err_eq_ok, Res.ok.injEq, Prod.mk.injEq]

/-- **`parse_nmea_sentence` accepts exactly the lines split as below**, and returns the bytes of the body, its
    fields and the transmitted checksum value.  (The bracketed conditions are `C08.Shape`, word for word.) -/
theorem parseNmeaSentence_eq_ok {cfg : Cfg} {line raw : Bytes} {s : Sentence} {cks : Nat} :
    parseNmeaSentence cfg line = ok (raw, s, cks) ↔
      ∃ (pre : Bytes) (d : UInt8) (b : Body) (rest : Bytes),
        (line = pre ++ [d] ++ b.render ++ [0x2A] ++ rest ∧ PreOK pre ∧ (d = 0x21 ∨ d = 0x24) ∧ b.WF cfg ∧
          (0x2A : UInt8) ∉ b.render ∧ rest.takeWhile isHexDigit ≠ [] ∧
          hexVal ((rest.takeWhile isHexDigit).take 8) ≤ 0xFF) ∧
        raw = b.render ∧ s = b.sentence ∧ cks = hexVal ((rest.takeWhile isHexDigit).take 8) := by
  unfold parseNmeaSentence
  simp (config := { singlePass := true }) only [↓bind_pair_eq_ok, ↓ite_err_eq_ok, ↓Res.ok.injEq, ↓Prod.mk.injEq,
    delimiter_eq_ok, takeUntil_eq_ok, parseAisSentence_eq_ok, tag_eq_ok, hexU32_eq_ok]
  constructor
  · rintro ⟨_, _, hopt, _, _, ⟨d, hd, rfl, -⟩, _, raw, ⟨rfl, hs, -⟩, _, _, ⟨b, hb, rfl, rfl, -⟩, hnil, _, _, ⟨rfl, -⟩,
      _, _, ⟨hh, -, rfl⟩, hv, rfl, rfl, rfl⟩
    obtain ⟨pre, hp, rfl, -⟩ := (optTagBlock_eq_ok hd).mp hopt
    obtain rfl := Decidable.of_not_not hnil
    rw [List.append_nil] at hs
    exact ⟨pre, d, b, _, ⟨by simp, hp, hd, hb, hs, hh, Decidable.of_not_not hv⟩, by simp, rfl, rfl⟩
  · rintro ⟨pre, d, b, rest, ⟨rfl, hp, hd, hb, hs, hh, hv⟩, rfl, rfl, rfl⟩
    exact ⟨_, _, (optTagBlock_eq_ok hd).mpr ⟨pre, hp, by simp, rfl⟩, _, _, ⟨d, hd, rfl, rfl⟩, _, _, ⟨rfl, hs, rfl⟩,
      _, _, ⟨b, hb, (List.append_nil _).symm, rfl, nofun⟩, not_not_intro rfl, _, _, ⟨rfl, rfl⟩, _, _, ⟨hh, rfl, rfl⟩,
      not_not_intro hv, rfl, rfl, rfl⟩

theorem parsed_body {cfg : Cfg} {line raw : Bytes} {s : Sentence} {cks : Nat}
    (h : parseNmeaSentence cfg line = ok (raw, s, cks)) : ∃ b : Body, b.WF cfg ∧ raw = b.render ∧ s = b.sentence := by
  obtain ⟨_, _, b, _, ⟨-, -, -, hwf, -⟩, hraw, hs, -⟩ := parseNmeaSentence_eq_ok.mp h
  exact ⟨b, hwf, hraw, hs⟩

theorem parseNmeaSentence_render (cfg : Cfg) (pre : Bytes) (d : UInt8) (b : Body) (rest : Bytes)
    (hp : PreOK pre) (hd : d = 0x21 ∨ d = 0x24) (hb : b.WF cfg) (hs : (0x2A : UInt8) ∉ b.render)
    (hh : rest.takeWhile isHexDigit ≠ []) (hv : hexVal ((rest.takeWhile isHexDigit).take 8) ≤ 0xFF) :
    parseNmeaSentence cfg (pre ++ [d] ++ b.render ++ [0x2A] ++ rest) =
      ok (b.render, b.sentence, hexVal ((rest.takeWhile isHexDigit).take 8)) :=
  parseNmeaSentence_eq_ok.mpr ⟨pre, d, b, rest, ⟨rfl, hp, hd, hb, hs, hh, hv⟩, rfl, rfl, rfl⟩

end AisVerif
