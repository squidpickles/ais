/-
  `radio_status.rs`: the crate reads a communication state field by field; the specification takes the 19 bits as
  one number and divides.  `field_div`/`field_mod` relate the two.
-/
import AisVerif.Lemmas.Take
import AisVerif.Spec.Decode

namespace AisVerif
open Spec

/-- The sub message of a SOTDMA state with slot time-out `t`, as `Spec.sotdma` reads it off the low 14 bits. -/
def subOf (t sub : Nat) : List (Key × Val) :=
  if t = 0 then [(.sub_message, .sym "SlotOffset"), (.sub_a, .nat sub)]
  else if t = 1 then
    [(.sub_message, .sym "UtcHourAndMinute"), (.sub_a, .nat (sub / 2 ^ 9)), (.sub_b, .nat ((sub / 4) % 64))]
  else if t % 2 = 0 then [(.sub_message, .sym "SlotNumber"), (.sub_a, .nat sub)]
  else [(.sub_message, .sym "ReceivedStations"), (.sub_a, .nat sub)]

theorem sotdma_eq (v : Nat) :
    Spec.sotdma v = [(.radio, .sym "Sotdma"), (.sync_state, SyncState.parse (v / 2 ^ 17)),
      (.slot_timeout, .nat ((v / 2 ^ 14) % 8))] ++ subOf ((v / 2 ^ 14) % 8) (v % 2 ^ 14) := by rfl

/-- `SubMessage::parse` for a three-bit time-out: every arm reads 14 bits, all but `1` in one read (that one reads
    5 + 1 + 6 + 2).  `ht` comes first because the lemma is used partly applied, as `↓parseSubMessage_bind (field_lt ..)`. -/
theorem parseSubMessage_bind {β : Type} {t : Nat} (ht : t < 8) (bs : List UInt8) (p : Nat)
    (f : List (Key × Val) × Cur → Res β) :
    (parseSubMessage ⟨bs, p⟩ t >>= f) =
      if p + 14 ≤ 8 * bs.length then f (subOf t (field bs p 14), ⟨bs, p + 14⟩) else err (.nomError .eof) := by
  refine bind_of_spec f ?_
  match t, ht with
  | 0, _ | 2, _ | 3, _ | 4, _ | 5, _ | 6, _ | 7, _ => exact take_bind bs p _ (by decide) (by decide)
  | 1, _ =>
    have e1 : field bs p 14 / 2 ^ 9 = field bs p 5 := field_div bs p 5 9
    have e2 : field bs p 14 / 4 % 64 = field bs (p + 6) 6 := by rw [field_div bs p 12 2]; exact field_mod bs p 6 6
    simp only [parseSubMessage, subOf, ais_take, e1, e2]; rfl

theorem parseSotdma_spec (bs : List UInt8) (p : Nat) :
    parseSotdma ⟨bs, p⟩ =
      if p + 19 ≤ 8 * bs.length then ok (Spec.sotdma (field bs p 19), ⟨bs, p + 19⟩)
      else err (.nomError .eof) := by
  have e1 : field bs p 19 / 2 ^ 17 = field bs p 2 := field_div bs p 2 17
  have e2 : field bs p 19 / 2 ^ 14 % 8 = field bs (p + 2) 3 := by rw [field_div bs p 5 14]; exact field_mod bs p 2 3
  have e3 : field bs p 19 % 2 ^ 14 = field bs (p + 5) 14 := field_mod bs p 5 14
  unfold parseSotdma
  simp only [ais_take, ↓parseSubMessage_bind (field_lt bs (p + 2) 3), sotdma_eq, e1, e2, e3]

theorem parseItdma_spec (bs : List UInt8) (p : Nat) :
    parseItdma ⟨bs, p⟩ =
      if p + 19 ≤ 8 * bs.length then ok (Spec.itdma (field bs p 19), ⟨bs, p + 19⟩)
      else err (.nomError .eof) := by
  have e1 : field bs p 19 / 2 ^ 17 = field bs p 2 := field_div bs p 2 17
  have e2 : field bs p 19 / 16 % 2 ^ 13 = field bs (p + 2) 13 := by rw [field_div bs p 15 4]; exact field_mod bs p 2 13
  have e3 : field bs p 19 / 2 % 8 = field bs (p + 15) 3 := by rw [field_div bs p 18 1]; exact field_mod bs p 15 3
  have e4 : field bs p 19 % 2 = field bs (p + 18) 1 := field_mod bs p 18 1
  unfold parseItdma Spec.itdma
  simp only [ais_take, e1, e2, e3, e4]

theorem parseRadio_spec (bs : List UInt8) (p t : Nat) :
    parseRadio ⟨bs, p⟩ t =
      match Spec.radioOf t (field bs p 19) with
      | some r => if p + 19 ≤ 8 * bs.length then ok (r, ⟨bs, p + 19⟩) else err (.nomError .eof)
      | none => err (.nomFailure .digit) := by
  unfold parseRadio Spec.radioOf
  split
  · exact parseSotdma_spec bs p
  · split
    · exact parseItdma_spec bs p
    · rfl

theorem parseRadio_bind {β : Type} (bs : List UInt8) (p t : Nat) (f : List (Key × Val) × Cur → Res β) :
    (parseRadio ⟨bs, p⟩ t >>= f) =
      match Spec.radioOf t (field bs p 19) with
      | some r => if p + 19 ≤ 8 * bs.length then f (r, ⟨bs, p + 19⟩) else err (.nomError .eof)
      | none => err (.nomFailure .digit) := by
  rw [parseRadio_spec]
  cases Spec.radioOf t (field bs p 19) with
  | none => rfl
  | some r => exact bind_of_spec f rfl

end AisVerif
