/-
  Rendering the checksum of a line: two upper-case hexadecimal digits, and what the grammar reads back.
-/
import AisVerif.Lemmas.Outer

namespace AisVerif

def hexDigitChar (d : Nat) : UInt8 := if d < 10 then UInt8.ofNat (48 + d) else UInt8.ofNat (55 + d)

def hex2 (n : Nat) : Bytes := [hexDigitChar (n / 16), hexDigitChar (n % 16)]

theorem hexDigitChar_spec : ∀ d : Fin 16,
    isHexDigit (hexDigitChar d.val) = true ∧ hexDigitVal (hexDigitChar d.val) = d.val := by decide +kernel

theorem hex2_spec : ∀ c : Fin 256,
    (hex2 c.val).takeWhile isHexDigit = hex2 c.val ∧ hexVal ((hex2 c.val).take 8) = c.val := by
  intro c
  obtain ⟨h1, v1⟩ := hexDigitChar_spec ⟨c.val / 16, Nat.div_lt_of_lt_mul c.isLt⟩
  obtain ⟨h2, v2⟩ := hexDigitChar_spec ⟨c.val % 16, Nat.mod_lt _ (by decide)⟩
  refine ⟨?_, ?_⟩
  · simp only [hex2, List.takeWhile, h1, h2]
  · show (0 * 16 + hexDigitVal _) * 16 + hexDigitVal _ = c.val
    rw [v1, v2, Nat.zero_mul, Nat.zero_add]
    exact Nat.div_add_mod' c.val 16

/-- `!<body>*<cc>` with an arbitrary transmitted checksum value `c`. -/
def renderLineWith (b : Body) (c : Nat) : Bytes := [] ++ [0x21] ++ b.render ++ [0x2A] ++ hex2 c

theorem parse_renderLineWith (cfg : Cfg) (b : Body) (hwf : b.WF cfg) (hs : (0x2A : UInt8) ∉ b.render) (c : Fin 256) :
    parseNmeaSentence cfg (renderLineWith b c.val) = ok (b.render, b.sentence, c.val) := by
  obtain ⟨hx1, hx2⟩ := hex2_spec c
  have hparse := parseNmeaSentence_render cfg [] 0x21 b (hex2 c.val) (Or.inl rfl) (Or.inl rfl) hwf hs
  rw [hx1, hx2] at hparse
  exact hparse (List.cons_ne_nil _ _) (Nat.le_of_lt_succ c.isLt)

end AisVerif
