/-
  `take_bits::<_, u8, _, _>(10u8)` — ten bits accumulated in a `u8` (types 4 and 11, bits 138-147).
  It is panic-free only because it starts at bit offset 2 of a byte: the first shift is by 4 (< 8)
  and the two partial sums never exceed 255.
-/
import AisVerif.Lemmas.Take

namespace AisVerif

/-- What ends up in the `u8` (the crate discards it). -/
def spare10 (bs : List UInt8) (p : Nat) : Nat :=
  (bs[p / 8]?.getD 0).toNat % 64 * 16 % 256 + (bs[p / 8 + 1]?.getD 0).toNat / 16

theorem take_8_10_spec (bs : List UInt8) (p : Nat) (hp : p % 8 = 2) :
    take 8 10 ⟨bs, p⟩ =
      if p + 10 ≤ 8 * bs.length then ok (spare10 bs p, ⟨bs, p + 10⟩) else err (.nomError .eof) := by
  unfold take
  simp only [Cur.rest, List.length_drop, take_eof_iff (n := 10) (by decide), ite_not, Cur.advance_mk]
  rw [if_neg (by decide)]
  refine ite_congr rfl (fun hfit => ?_) fun _ => rfl
  have h1 : p / 8 + 1 < bs.length := by omega
  have h0 : p / 8 < bs.length := Nat.lt_of_succ_lt h1
  rw [List.drop_eq_getElem_cons h0, List.drop_eq_getElem_cons h1]
  unfold spare10
  rw [List.getElem?_eq_getElem h0, List.getElem?_eq_getElem h1]
  have hy : bs[p / 8 + 1].toNat < 256 := bs[p / 8 + 1].toNat_lt
  simp only [hp, Option.getD_some, List.take, takeLoop, shlW, addW, Nat.reduceAdd, Nat.reduceDiv,
    Nat.reduceSub, Nat.reducePow, Nat.reduceLT, if_true, if_false, Nat.reduceEqDiff, Res.ok_bind, Nat.zero_add]
  rw [if_pos (Nat.mod_lt _ (by decide)), Res.ok_bind, Nat.mod_eq_of_lt hy, if_pos (by omega)]
  rfl

@[ais_take ↓] theorem take_8_10_bind {β : Type} (bs : List UInt8) (p : Nat) (f : Nat × Cur → Res β) (hp : p % 8 = 2) :
    (take 8 10 ⟨bs, p⟩ >>= f) =
      if p + 10 ≤ 8 * bs.length then f (spare10 bs p, ⟨bs, p + 10⟩) else err (.nomError .eof) :=
  bind_of_spec f (take_8_10_spec bs p hp)

end AisVerif
