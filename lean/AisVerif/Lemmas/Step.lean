/-
  `AisParser::parse` by cases, so that no proof about `step` or `stepSentence` has to unfold them: the four ways
  through `step` (grammar error, panic, checksum mismatch, sentence), and the five things `stepSentence` does to a
  sentence the grammar produced (unfragmented; first, further and last fragment of a group; a fragment that does not
  continue the open group), as equations over `Continues`.  (`stepSentence_first` asks that the fragment's own payload
  fits, which `parsed_fits` supplies: a first fragment that did not would be refused and the open group lost.)
-/
import AisVerif.Model.Sentence
import AisVerif.Spec.Reassembly

namespace AisVerif
open Spec

theorem step_of_err (cfg : Cfg) (st : PState) {line : Bytes} (dec : Bool) {e : Err}
    (hp : parseNmeaSentence cfg line = err e) : step cfg st line dec = (st, err e) := by
  simp [step, hp]

theorem step_of_panic (cfg : Cfg) (st : PState) {line : Bytes} (dec : Bool) {p : Panic}
    (hp : parseNmeaSentence cfg line = panic p) : step cfg st line dec = (st, panic p) := by
  simp [step, hp]

theorem step_of_mismatch (cfg : Cfg) (st : PState) {line raw : Bytes} {s : Sentence} {cks : Nat} (dec : Bool)
    (hp : parseNmeaSentence cfg line = ok (raw, s, cks)) (hc : cks ≠ (xorAll raw).toNat) :
    step cfg st line dec = (st, err (.checksum cks (xorAll raw).toNat)) := by
  simp [step, checkChecksum, hp, hc]

theorem step_of_parse (cfg : Cfg) (st : PState) {line raw : Bytes} {s : Sentence} {cks : Nat} (dec : Bool)
    (hp : parseNmeaSentence cfg line = ok (raw, s, cks)) (hc : cks = (xorAll raw).toNat) :
    step cfg st line dec = stepSentence cfg st s dec := by
  simp [step, checkChecksum, hp, hc]

/-- The four ways through `AisParser::parse`, as a case principle.  Close a case that cannot arise by
    `fun _ _ => nofun`, matching on the impossible equation alone: a bare `nofun` also tries the hypothesis about the
    grammar and any `Frag` or `Sentence` among the arguments, which is slow.  A hypothesis that mentions
    `step cfg st line dec` has to be part of the goal: `revert h; exact step_elim …`. -/
@[elab_as_elim]
theorem step_elim {motive : PState × Res Frag → Prop} (cfg : Cfg) (st : PState) (line : Bytes) (dec : Bool)
    (error : ∀ e, parseNmeaSentence cfg line = err e → motive (st, err e))
    (panicked : ∀ p, parseNmeaSentence cfg line = panic p → motive (st, panic p))
    (checksum : ∀ raw s cks, parseNmeaSentence cfg line = ok (raw, s, cks) → cks ≠ (xorAll raw).toNat →
      motive (st, err (.checksum cks (xorAll raw).toNat)))
    (sentence : ∀ raw s, parseNmeaSentence cfg line = ok (raw, s, (xorAll raw).toNat) →
      motive (stepSentence cfg st s dec)) :
    motive (step cfg st line dec) := by
  cases hp : parseNmeaSentence cfg line with
  | err e => rw [step_of_err cfg st dec hp]; exact error e hp
  | panic p => rw [step_of_panic cfg st dec hp]; exact panicked p hp
  | ok r =>
    obtain ⟨raw, s, cks⟩ := r
    by_cases hc : cks = (xorAll raw).toNat
    · subst hc; rw [step_of_parse cfg st dec hp rfl]; exact sentence raw s hp
    · rw [step_of_mismatch cfg st dec hp hc]; exact checksum raw s cks hp hc

theorem step_ok {cfg : Cfg} {st : PState} {line : Bytes} {dec : Bool} {f : Frag} (h : (step cfg st line dec).2 = ok f) :
    ∃ raw s, parseNmeaSentence cfg line = ok (raw, s, (xorAll raw).toNat) ∧
      step cfg st line dec = stepSentence cfg st s dec := by
  revert h
  exact step_elim cfg st line dec (fun _ _ => nofun) (fun _ _ => nofun) (fun _ _ _ _ _ => nofun)
    fun raw s hp _ => ⟨raw, s, hp, rfl⟩

/-- The build configuration enters `parse` through the grammar and `stepSentence` only: two builds whose
    grammars agree on a line agree on it altogether, or both hand the same sentence to `stepSentence`. -/
theorem step_congr {c1 c2 : Cfg} {line : Bytes} (hp : parseNmeaSentence c1 line = parseNmeaSentence c2 line)
    (st : PState) (dec : Bool) :
    step c1 st line dec = step c2 st line dec ∨
    ∃ raw s cks, parseNmeaSentence c2 line = ok (raw, s, cks) ∧
      step c1 st line dec = stepSentence c1 st s dec ∧ step c2 st line dec = stepSentence c2 st s dec := by
  cases h2 : parseNmeaSentence c2 line with
  | err e => exact .inl ((step_of_err c1 st dec (hp.trans h2)).trans (step_of_err c2 st dec h2).symm)
  | panic p => exact .inl ((step_of_panic c1 st dec (hp.trans h2)).trans (step_of_panic c2 st dec h2).symm)
  | ok r =>
    obtain ⟨raw, s, cks⟩ := r
    by_cases hc : cks = (xorAll raw).toNat
    · exact .inr ⟨raw, s, cks, rfl, step_of_parse c1 st dec (hp.trans h2) hc,
        step_of_parse c2 st dec h2 hc⟩
    · exact .inl ((step_of_mismatch c1 st dec (hp.trans h2) hc).trans
        (step_of_mismatch c2 st dec h2 hc).symm)

def capOf (cfg : Cfg) : Option Nat := if cfg.isNoalloc then some maxSentence else none

theorem fits_iff (cfg : Cfg) (n : Nat) : fits (capOf cfg) n ↔ ¬ ((cfg.isNoalloc && decide (maxSentence < n)) = true) := by
  unfold fits capOf
  cases cfg <;> simp [Cfg.isNoalloc]

theorem fits_mono {cap : Option Nat} {m n : Nat} (h : fits cap m) (hnm : n ≤ m) : fits cap n := by
  cases cap with
  | none => trivial
  | some c => exact Nat.le_trans hnm h

def Continues (cfg : Cfg) (st : PState) (s : Sentence) : Prop :=
  st.message_id = s.message_id ∧ st.fragment_number + 1 = s.fragment_number ∧
    fits (capOf cfg) (st.data.length + s.data.length)

theorem verifyAndExtend_accept (cfg : Cfg) (st : PState) (s : Sentence) (h : Continues cfg st s) :
    verifyAndExtend cfg st s = ({ st with data := st.data ++ s.data, fragment_number := s.fragment_number }, ok ()) := by
  obtain ⟨hid, hfn, hfit⟩ := h
  unfold verifyAndExtend
  rw [if_neg (fun h => h hid), if_neg (by omega), if_neg ((fits_iff cfg _).mp hfit)]

theorem verifyAndExtend_reject (cfg : Cfg) (st : PState) (s : Sentence) (h : ¬ Continues cfg st s) :
    ∃ m, verifyAndExtend cfg st s = (st, err (.text m)) := by
  unfold verifyAndExtend
  by_cases h1 : st.message_id ≠ s.message_id
  · exact ⟨_, if_pos h1⟩
  by_cases h2 : s.fragment_number < st.fragment_number ∨ s.fragment_number - st.fragment_number ≠ 1
  · exact ⟨_, (if_neg h1).trans (if_pos h2)⟩
  by_cases h3 : (cfg.isNoalloc && decide (maxSentence < st.data.length + s.data.length)) = true
  · exact ⟨_, (if_neg h1).trans ((if_neg h2).trans (if_pos h3))⟩
  · exact absurd ⟨Classical.not_not.mp h1, by omega, (fits_iff cfg _).mpr h3⟩ h

theorem verifyAndExtend_result (cfg : Cfg) (st : PState) (s : Sentence) :
    (∃ st2, verifyAndExtend cfg st s = (st2, ok ())) ∨ ∃ m, verifyAndExtend cfg st s = (st, err (.text m)) := by
  by_cases h : Continues cfg st s
  · exact .inl ⟨_, verifyAndExtend_accept cfg st s h⟩
  · exact .inr (verifyAndExtend_reject cfg st s h)

theorem stepSentence_eq (cfg : Cfg) (st : PState) (s : Sentence) (dec : Bool) :
    stepSentence cfg st s dec =
      if s.fragment_number < s.num_fragments then
        afterVerify (verifyAndExtend cfg (if s.fragment_number = 1 then ⟨s.message_id, 0, []⟩ else st) s)
          fun st2 => (st2, ok (.incomplete s))
      else if s.num_fragments ≠ 1 then
        afterVerify (verifyAndExtend cfg st s)
          fun st2 => (⟨none, 0, []⟩, (decodeInto cfg dec { s with data := st2.data }).map Frag.complete)
      else (st, (decodeInto cfg dec s).map Frag.complete) := by
  simp only [stepSentence, Sentence.hasMore, Sentence.isFragment, decide_eq_true_eq, bne_iff_ne]

theorem stepSentence_unfrag (cfg : Cfg) (dec : Bool) (st : PState) (s : Sentence)
    (hm : ¬ s.fragment_number < s.num_fragments) (h1 : s.num_fragments = 1) :
    stepSentence cfg st s dec = (st, (decodeInto cfg dec s).map Frag.complete) := by
  rw [stepSentence_eq, if_neg hm, if_neg (fun h => h h1)]

theorem stepSentence_first (cfg : Cfg) (dec : Bool) (st : PState) (s : Sentence)
    (hm : s.fragment_number < s.num_fragments) (h1 : s.fragment_number = 1) (hfit : fits (capOf cfg) s.data.length) :
    stepSentence cfg st s dec = (⟨s.message_id, 1, s.data⟩, ok (.incomplete s)) := by
  have hc : Continues cfg ⟨s.message_id, 0, []⟩ s := ⟨rfl, h1.symm, by simpa using hfit⟩
  rw [stepSentence_eq, if_pos hm, if_pos h1, verifyAndExtend_accept cfg _ s hc, h1]
  rfl

theorem stepSentence_next (cfg : Cfg) (dec : Bool) (st : PState) (s : Sentence)
    (hm : s.fragment_number < s.num_fragments) (h1 : s.fragment_number ≠ 1) (hc : Continues cfg st s) :
    stepSentence cfg st s dec =
      (⟨st.message_id, s.fragment_number, st.data ++ s.data⟩, ok (.incomplete s)) := by
  rw [stepSentence_eq, if_pos hm, if_neg h1, verifyAndExtend_accept cfg st s hc]
  rfl

theorem stepSentence_final (cfg : Cfg) (dec : Bool) (st : PState) (s : Sentence)
    (hm : ¬ s.fragment_number < s.num_fragments) (hn : s.num_fragments ≠ 1) (hc : Continues cfg st s) :
    stepSentence cfg st s dec =
      (⟨none, 0, []⟩, (decodeInto cfg dec { s with data := st.data ++ s.data }).map Frag.complete) := by
  rw [stepSentence_eq, if_neg hm, if_pos hn, verifyAndExtend_accept cfg st s hc]
  rfl

theorem stepSentence_reject (cfg : Cfg) (dec : Bool) (st : PState) (s : Sentence)
    (hfrag : (s.fragment_number < s.num_fragments ∧ s.fragment_number ≠ 1) ∨
             (¬ s.fragment_number < s.num_fragments ∧ s.num_fragments ≠ 1))
    (hc : ¬ Continues cfg st s) : ∃ m, stepSentence cfg st s dec = (st, err (.text m)) := by
  obtain ⟨m, h⟩ := verifyAndExtend_reject cfg st s hc
  refine ⟨m, ?_⟩
  rcases hfrag with ⟨hm, h1⟩ | ⟨hm, hn⟩
  · rw [stepSentence_eq, if_pos hm, if_neg h1, h]; rfl
  · rw [stepSentence_eq, if_neg hm, if_pos hn, h]; rfl

/-- For both values of the decode flag at once: the state does not depend on it, nor does the payload `d` that is decoded. -/
theorem stepSentence_result (cfg : Cfg) (st : PState) (s : Sentence) :
    ∃ st', (∀ dec, stepSentence cfg st s dec = (st', ok (.incomplete s))) ∨
      (∃ m, ∀ dec, stepSentence cfg st s dec = (st', err (.text m))) ∨
      ∃ d, ∀ dec, stepSentence cfg st s dec = (st', (decodeInto cfg dec { s with data := d }).map Frag.complete) := by
  unfold stepSentence
  cases s.hasMore
  · cases s.isFragment
    · exact ⟨st, .inr (.inr ⟨s.data, fun _ => rfl⟩)⟩
    · rcases verifyAndExtend_result cfg st s with ⟨st2, h⟩ | ⟨m, h⟩
      · exact ⟨_, .inr (.inr ⟨st2.data, fun _ => by simp only [h]; rfl⟩)⟩
      · exact ⟨st, .inr (.inl ⟨m, fun _ => by simp only [h]; rfl⟩)⟩
  · generalize (if s.fragment_number = 1 then (⟨s.message_id, 0, []⟩ : PState) else st) = st1
    rcases verifyAndExtend_result cfg st1 s with ⟨st2, h⟩ | ⟨m, h⟩
    · exact ⟨st2, .inl fun _ => by simp only [h]; rfl⟩
    · exact ⟨st1, .inr (.inl ⟨m, fun _ => by simp only [h]; rfl⟩)⟩

end AisVerif
