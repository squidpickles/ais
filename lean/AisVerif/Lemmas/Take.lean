/-
  Bit-level reads as rewriting lemmas: `take W n ⟨bs, p⟩ >>= f` is a length test on `p + n` and `f` applied to
  `field bs p n`.  The simp set `ais_take` rewrites a straight-line parser read by read and collapses the length
  tests into the one of its last read, so that `parseTxx bs = if N ≤ 8 * bs.length then ok (Spec.decodeTxx bs) else err eof`
  is `unfold; simp only [ais_take]; rfl`.
-/
import AisVerif.Lemmas.Attr
import AisVerif.Lemmas.Bits
import AisVerif.Model.Parsers
import AisVerif.Spec.Common

namespace AisVerif
open Spec

theorem Cur.advance_mk (bs : List UInt8) (p n : Nat) : (Cur.mk bs p).advance n = ⟨bs, p + n⟩ := rfl
/- `by rfl`, not the term `rfl`: simp applies a term-`rfl` lemma as a definitional step without a proof, and when it
   then closes a premise of `ite_congr` by `Eq.refl` it compares `⟨bs, 302⟩.remaining` with `8 * bs.length - 302` at
   instance transparency, where `remaining` stays folded and `Nat.sub _ 302` is unfolded one `pred` at a time. -/
theorem Cur.remaining_mk (bs : List UInt8) (p : Nat) : (Cur.mk bs p).remaining = 8 * bs.length - p := by rfl

/-- The crate's `remaining_bits(data) >= b` (and `< b`) at bit `a` is the length test `a + b ≤ L` every read makes. -/
theorem le_sub_iff {a b L : Nat} (hb : 0 < b) : b ≤ L - a ↔ a + b ≤ L :=
  match b, hb with | _ + 1, _ => Nat.lt_sub_iff_add_lt'

theorem sub_lt_iff {a b L : Nat} (hb : 0 < b) : L - a < b ↔ ¬ a + b ≤ L := by rw [← le_sub_iff hb, Nat.not_le]

theorem min_mul_div (k n d : Nat) (hd : 0 < d) : min (k * d) n / d = min k (n / d) := by
  rcases Nat.le_total (k * d) n with h | h
  · rw [Nat.min_eq_left h, Nat.mul_div_cancel _ hd, Nat.min_eq_left ((Nat.le_div_iff_mul_le hd).2 h)]
  · rw [Nat.min_eq_right h, Nat.min_eq_right (Nat.div_le_of_le_mul (by rwa [Nat.mul_comm] at h))]

/-- Item `i` (of width `w`, the first at bit `q`) is among the whole items present iff its last bit is. -/
theorem lt_div_sub_iff {i q w L : Nat} (hw : 0 < w) : i < (L - q) / w ↔ q + w * (i + 1) ≤ L := by
  rw [Nat.lt_iff_add_one_le, Nat.le_div_iff_mul_le hw, Nat.mul_comm (i + 1)]
  exact le_sub_iff (Nat.mul_pos hw i.succ_pos)

theorem ite_eq_of_pos {α : Sort _} {c : Prop} [Decidable c] {x y z : α} (hc : c) (h : x = z) :
    (if c then x else y) = z := by rw [if_pos hc]; exact h

theorem ite_err_of {α : Type} {c : Prop} [Decidable c] {x : Res α} {e : Err} (h : c → x = err e) :
    (if c then x else err e) = err e := by
  by_cases hc : c
  · rw [if_pos hc]; exact h hc
  · rw [if_neg hc]

/-- The bind form of a reader specification.  A reader that is by definition `take … >>= fun (v, c) => ok (g v, c)`
    (the date readers below, `parseSubMessage`, `messageType`) has `take_bind` itself as its specification: unification
    finds the continuation by unfolding the reader. -/
theorem bind_of_spec {α β : Type} {x : Res α} {c : Prop} [Decidable c] {a : α} (f : α → Res β)
    (h : x = if c then ok a else err (.nomError .eof)) :
    (x >>= f) = if c then f a else err (.nomError .eof) := by
  rw [h]; split <;> rfl

theorem ite_le_ite_le {α : Sort _} {a b L : Nat} (h : a ≤ b) (x e : α) :
    (if a ≤ L then (if b ≤ L then x else e) else e) = if b ≤ L then x else e := by
  by_cases hb : b ≤ L
  · rw [if_pos (Nat.le_trans h hb)]
  · rw [if_neg hb, ite_self]

theorem take_bind {β : Type} {W n : Nat} (bs : List UInt8) (p : Nat) (f : Nat × Cur → Res β)
    (hn : 0 < n) (hW : n ≤ W) :
    (take W n ⟨bs, p⟩ >>= f) =
      if p + n ≤ 8 * bs.length then f (field bs p n, ⟨bs, p + n⟩) else err (.nomError .eof) :=
  bind_of_spec f (take_spec ⟨bs, p⟩ hn hW)

/-- Unlike `take_bind` this covers the empty read `n = 0`. -/
theorem take_of_fits {W n : Nat} (bs : List UInt8) (p : Nat) (hW : n ≤ W) (h : p + n ≤ 8 * bs.length) :
    take W n ⟨bs, p⟩ = ok (field bs p n, ⟨bs, p + n⟩) := by
  cases n with
  | zero => exact take_zero W _
  | succ n => rw [take_spec _ (Nat.succ_pos n) hW, if_pos h]; rfl

theorem signedI32_spec (len : Nat) (bs : List UInt8) (p : Nat) (h0 : 0 < len) (h31 : len ≤ 31) :
    signedI32 len ⟨bs, p⟩ =
      if p + len ≤ 8 * bs.length then ok (toSigned len (field bs p len), ⟨bs, p + len⟩)
      else err (.nomError .eof) := by
  unfold signedI32 toSigned
  rw [if_neg (Nat.not_lt.2 (Nat.le_succ_of_le h31))]
  refine (take_bind bs p _ h0 h31).trans (ite_congr rfl (fun _ => ?_) fun _ => rfl)
  dsimp only
  rw [if_neg (Nat.ne_of_gt h0)]
  by_cases hs : 2 ^ (len - 1) ≤ field bs p len
  · rw [if_pos hs, if_neg (Nat.not_lt.2 hs)]
  · rw [if_neg hs, if_pos (Nat.lt_of_not_le hs)]

theorem signedI32_bind {β : Type} (len : Nat) (bs : List UInt8) (p : Nat) (f : Int × Cur → Res β)
    (h0 : 0 < len) (h31 : len ≤ 31) :
    (signedI32 len ⟨bs, p⟩ >>= f) =
      if p + len ≤ 8 * bs.length then f (toSigned len (field bs p len), ⟨bs, p + len⟩)
      else err (.nomError .eof) :=
  bind_of_spec f (signedI32_spec len bs p h0 h31)

theorem take_bind_15_13 {β : Type} (bs : List UInt8) (p : Nat) (f : Nat × Cur → Res β) :
    (take 15 13 ⟨bs, p⟩ >>= f) = if p + 13 ≤ 8 * bs.length then f (field bs p 13, ⟨bs, p + 13⟩) else err (.nomError .eof) :=
  take_bind bs p f (by decide) (by decide)

theorem take_bind_15_14 {β : Type} (bs : List UInt8) (p : Nat) (f : Nat × Cur → Res β) :
    (take 15 14 ⟨bs, p⟩ >>= f) = if p + 14 ≤ 8 * bs.length then f (field bs p 14, ⟨bs, p + 14⟩) else err (.nomError .eof) :=
  take_bind bs p f (by decide) (by decide)

/-! One-bit fields never reach the `unreachable!()` arms. -/

theorem twoWay_field (a b : String) (bs : List UInt8) (p : Nat) :
    twoWay a b (field bs p 1) = ok (bitSym a b (field bs p 1)) :=
  match field bs p 1, field_lt bs p 1 with
  | 0, _ | 1, _ => rfl

/-! The simp set.  The `.._bind` lemmas fire before their continuation is visited (`↓`): as post-lemmas they would find it
already simplified under its binder and simplify it again after instantiation, quadratic in the number of reads.  Their
side conditions on literals and the premise of `ite_le_ite_le` are closed by simp's own arithmetic: that is what
`Nat.add_assoc`, `Nat.add_le_add_iff_left` and the `Nat.reduce…` simprocs are in the set for. -/

attribute [ais_take ↓] take_bind signedI32_bind
attribute [ais_take] ite_le_ite_le Nat.add_assoc Nat.add_le_add_iff_left
attribute [ais_take_proc] Nat.reduceAdd Nat.reduceMul Nat.reduceDiv Nat.reduceLT Nat.reduceLeDiff

@[ais_take ↓] theorem u8ToBool_bind {β : Type} (bs : List UInt8) (p : Nat) (f : Val → Res β) :
    (u8ToBool (field bs p 1) >>= f) = f (.bool (field bs p 1 == 1)) :=
  match field bs p 1, field_lt bs p 1 with
  | 0, _ | 1, _ => rfl

@[ais_take ↓] theorem Accuracy_parse_bind {β : Type} (bs : List UInt8) (p : Nat) (f : Val → Res β) :
    (Accuracy.parse (field bs p 1) >>= f) = f (bitSym "Unaugmented" "Dgps" (field bs p 1)) :=
  congrArg (· >>= f) (twoWay_field _ _ bs p)

@[ais_take ↓] theorem Dte_from_bind {β : Type} (bs : List UInt8) (p : Nat) (f : Val → Res β) :
    (Dte.from (field bs p 1) >>= f) = f (bitSym "Ready" "NotReady" (field bs p 1)) :=
  congrArg (· >>= f) (twoWay_field _ _ bs p)

@[ais_take ↓] theorem AssignedMode_parse_bind {β : Type} (bs : List UInt8) (p : Nat) (f : Val → Res β) :
    (AssignedMode.parse (field bs p 1) >>= f) = f (bitSym "Autonomous" "Assigned" (field bs p 1)) :=
  congrArg (· >>= f) (twoWay_field _ _ bs p)

@[ais_take ↓] theorem CarrierSense_parse_bind {β : Type} (bs : List UInt8) (p : Nat) (f : Val → Res β) :
    (CarrierSense.parse (field bs p 1) >>= f) = f (bitSym "Sotdma" "CarrierSense" (field bs p 1)) :=
  congrArg (· >>= f) (twoWay_field _ _ bs p)

@[ais_take ↓] theorem parseYear_bind {β : Type} (bs : List UInt8) (p : Nat) (f : Val × Cur → Res β) :
    (parseYear ⟨bs, p⟩ >>= f) = if p + 14 ≤ 8 * bs.length then f (optNe 0 (field bs p 14), ⟨bs, p + 14⟩) else err (.nomError .eof) :=
  bind_of_spec f (take_bind bs p _ (by decide) (by decide))

@[ais_take ↓] theorem parseMonth_bind {β : Type} (bs : List UInt8) (p : Nat) (f : Val × Cur → Res β) :
    (parseMonth ⟨bs, p⟩ >>= f) = if p + 4 ≤ 8 * bs.length then f (optNe 0 (field bs p 4), ⟨bs, p + 4⟩) else err (.nomError .eof) :=
  bind_of_spec f (take_bind bs p _ (by decide) (by decide))

@[ais_take ↓] theorem parseDay_bind {β : Type} (bs : List UInt8) (p : Nat) (f : Val × Cur → Res β) :
    (parseDay ⟨bs, p⟩ >>= f) = if p + 5 ≤ 8 * bs.length then f (optNe 0 (field bs p 5), ⟨bs, p + 5⟩) else err (.nomError .eof) :=
  bind_of_spec f (take_bind bs p _ (by decide) (by decide))

@[ais_take ↓] theorem parseHour_bind {β : Type} (bs : List UInt8) (p : Nat) (f : Val × Cur → Res β) :
    (parseHour ⟨bs, p⟩ >>= f) = if p + 5 ≤ 8 * bs.length then f (.nat (field bs p 5), ⟨bs, p + 5⟩) else err (.nomError .eof) :=
  bind_of_spec f (take_bind bs p _ (by decide) (by decide))

@[ais_take ↓] theorem parseMinsec_bind {β : Type} (bs : List UInt8) (p : Nat) (f : Val × Cur → Res β) :
    (parseMinsec ⟨bs, p⟩ >>= f) = if p + 6 ≤ 8 * bs.length then f (optNe 60 (field bs p 6), ⟨bs, p + 6⟩) else err (.nomError .eof) :=
  bind_of_spec f (take_bind bs p _ (by decide) (by decide))

end AisVerif
