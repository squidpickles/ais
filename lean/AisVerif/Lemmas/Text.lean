/-
  `parse_6bit_ascii`: the characters of a text field are `Spec.chars`, what is returned is their `Spec.trim`.
-/
import AisVerif.Lemmas.Take
import AisVerif.Spec.Text

namespace AisVerif
open Spec

theorem sixbitToAscii_field (bs : List UInt8) (p : Nat) :
    sixbitToAscii (field bs p 6) = ok (Spec.sixbitAscii (field bs p 6)) := by
  unfold sixbitToAscii Spec.sixbitAscii
  split
  · rfl
  · exact if_pos (field_lt bs p 6)

theorem trimText_eq (cs : List UInt8) : trimText cs = Spec.trim cs := rfl

theorem countChars_spec (bs : List UInt8) :
    ∀ (n p : Nat), countChars n ⟨bs, p⟩ =
      if n = 0 then ok ([], ⟨bs, p⟩)
      else if p + 6 * n ≤ 8 * bs.length then ok (Spec.chars bs p n, ⟨bs, p + 6 * n⟩)
      else err (.nomError .eof) := by
  intro n
  induction n with
  | zero => intro p; rfl
  | succ k ih =>
    intro p
    unfold countChars
    rw [take_bind bs p _ (by decide) (by decide), if_neg (Nat.succ_ne_zero k)]
    simp only [sixbitToAscii_field, Res.ok_bind, ih (p + 6)]
    cases k with
    | zero => rfl
    | succ k =>
      rw [if_neg (Nat.succ_ne_zero k), bind_of_spec _ rfl, ite_le_ite_le (Nat.le_add_right ..),
        show p + 6 + 6 * (k + 1) = p + 6 * (k + 1 + 1) by omega]
      rfl

theorem parse6bitAscii_spec (cfg : Cfg) (bs : List UInt8) (p size : Nat) :
    parse6bitAscii cfg ⟨bs, p⟩ size =
      if cfg.isNoalloc && decide (maxText < size / 6) then err (.nomFailure .tooLarge)
      else if size / 6 = 0 then ok (.text [], ⟨bs, p⟩)
      else if p + 6 * (size / 6) ≤ 8 * bs.length then
        ok (.text (Spec.trim (Spec.chars bs p (size / 6))), ⟨bs, p + 6 * (size / 6)⟩)
      else err (.nomError .eof) := by
  unfold parse6bitAscii
  simp only [countChars_spec]
  refine ite_congr rfl (fun _ => rfl) fun _ => ?_
  by_cases h0 : size / 6 = 0
  · rw [if_pos h0, if_pos h0]; rfl
  · rw [if_neg h0, if_neg h0, bind_of_spec _ rfl]; rfl

/-- For 1 to 20 characters the no-alloc capacity (`maxText = 20`) cannot be exceeded, and the builds agree. -/
@[ais_take ↓] theorem parse6bitAscii_bind {β : Type} (cfg : Cfg) (bs : List UInt8) (p size : Nat)
    (f : Val × Cur → Res β) (hk : 0 < size / 6) (h20 : size / 6 ≤ 20) :
    (parse6bitAscii cfg ⟨bs, p⟩ size >>= f) =
      if p + 6 * (size / 6) ≤ 8 * bs.length then
        f (.text (Spec.trim (Spec.chars bs p (size / 6))), ⟨bs, p + 6 * (size / 6)⟩)
      else err (.nomError .eof) := by
  refine bind_of_spec f ?_
  have hcap : ¬ maxText < size / 6 := Nat.not_lt.mpr h20
  rw [parse6bitAscii_spec, if_neg (by simp [hcap]), if_neg (Nat.ne_of_gt hk)]

/-- `size` need not be a multiple of 6 (the text of types 12 and 14 is whatever is left): the cut-off character is dropped. -/
theorem parse6bitAscii_of_fits (cfg : Cfg) (bs : List UInt8) (p size : Nat) (hfit : size ≤ 8 * bs.length - p) :
    parse6bitAscii cfg ⟨bs, p⟩ size =
      if cfg.isNoalloc && decide (maxText < size / 6) then err (.nomFailure .tooLarge)
      else ok (.text (Spec.trim (Spec.chars bs p (size / 6))), ⟨bs, p + 6 * (size / 6)⟩) := by
  rw [parse6bitAscii_spec]
  congr 1
  by_cases h0 : size / 6 = 0
  · rw [h0]; rfl
  · rw [if_neg h0, if_pos ((le_sub_iff (Nat.mul_pos (by decide) (Nat.pos_of_ne_zero h0))).1
      (Nat.le_trans (Nat.mul_div_le size 6) hfit))]

end AisVerif
