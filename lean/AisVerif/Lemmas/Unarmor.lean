/-
  `messages::unarmor` computes the unarmoring (`unarmor_ok`), or one of its two errors.

  The buffer is followed through the `|=` and `&=` of the code in a Boolean view of its bits (`lbit`, so that
  the two become `||` and `&&`): the loop or-s the characters' bits in at their positions (`Placed`), the
  fill mask cuts the bit string off (`andAt_cut`).  Only `unarmor_ok` translates back to `Spec.bit`.
-/
import AisVerif.Model.Unarmor
import AisVerif.Spec.Unarmor
import AisVerif.Lemmas.Bits
namespace AisVerif
open Spec

/-- bit `m` (0 = most significant) of a byte, `false` for `m ≥ 8`; `lbit` the same of a byte string -/
def bbit (b : UInt8) (m : Nat) : Bool := decide (m < 8) && b.toNat.testBit (7 - m)

def lbit (l : List UInt8) (i : Nat) : Bool := bbit (l[i / 8]?.getD 0) (i % 8)

theorem bbit_of_lt (b : UInt8) {m : Nat} (h : m < 8) : bbit b m = b.toNat.testBit (7 - m) := by
  unfold bbit; rw [decide_eq_true h, Bool.true_and]

theorem bit_eq_lbit (l : List UInt8) (i : Nat) : bit l i = (lbit l i).toNat := by
  rw [lbit, bbit_of_lt _ (Nat.mod_lt _ (by decide)), Nat.toNat_testBit, bit]

theorem toUInt8_toNat {s : Nat} (h : s < 8) : s.toUInt8.toNat = s :=
  UInt8.toNat_ofNat_of_lt' (Nat.lt_trans h (by decide))

theorem bbit_ge (x : UInt8) (m : Nat) (h : 8 ≤ m) : bbit x m = false := by
  unfold bbit; rw [decide_eq_false (Nat.not_lt.mpr h), Bool.false_and]

theorem bbit_zero (m : Nat) : bbit 0 m = false := by
  unfold bbit; simp

theorem bbit_or (x y : UInt8) (m : Nat) : bbit (x ||| y) m = (bbit x m || bbit y m) := by
  unfold bbit
  rw [UInt8.toNat_or, Nat.testBit_or, Bool.and_or_distrib_left]

theorem bbit_and (x y : UInt8) (m : Nat) : bbit (x &&& y) m = (bbit x m && bbit y m) := by
  unfold bbit
  rw [UInt8.toNat_and, Nat.testBit_and]
  cases decide (m < 8) <;> rfl

theorem bbit_shr (x : UInt8) (s m : Nat) (hs : s < 8) (h1 : m < 8) :
    bbit (x >>> s.toUInt8) m = (decide (s ≤ m) && bbit x (m - s)) := by
  rw [bbit_of_lt _ h1, bbit_of_lt _ (Nat.lt_of_le_of_lt (Nat.sub_le m s) h1), UInt8.toNat_shiftRight,
    toUInt8_toNat hs, Nat.mod_eq_of_lt hs, Nat.testBit_shiftRight]
  by_cases h2 : s ≤ m
  · rw [decide_eq_true h2, Bool.true_and, Nat.sub_sub_right _ h2, Nat.sub_add_comm (Nat.le_of_lt_succ h1),
      Nat.add_comm s]
  · rw [decide_eq_false h2, Bool.false_and]
    exact Nat.testBit_lt_two_pow
      (Nat.lt_of_lt_of_le x.toNat_lt (Nat.pow_le_pow_right (by decide) (by omega)))

theorem bbit_shl (x : UInt8) (s m : Nat) (hs : s < 8) :
    bbit (x <<< s.toUInt8) m = bbit x (m + s) := by
  unfold bbit
  rw [UInt8.toNat_shiftLeft, toUInt8_toNat hs, Nat.mod_eq_of_lt hs, Nat.testBit_mod_two_pow,
    Nat.testBit_shiftLeft, Nat.sub_sub]
  simp only [← Bool.and_assoc, ← Bool.decide_and]
  congr 2; exact propext (by omega)

theorem bbit_ff (m : Nat) : bbit 0xff m = decide (m < 8) := by
  unfold bbit
  rw [show (0xff : UInt8).toNat = 2 ^ 8 - 1 from rfl, Nat.testBit_two_pow_sub_one,
    decide_eq_true (Nat.lt_succ_of_le (Nat.sub_le 7 m)), Bool.and_true]

theorem lbit_ge (l : List UInt8) (i : Nat) (h : 8 * l.length ≤ i) : lbit l i = false := by
  rw [lbit, List.getElem?_eq_none ((Nat.le_div_iff_mul_le (by decide)).mpr (Nat.mul_comm .. ▸ h))]
  exact bbit_zero _

theorem lbit_replicate (k i : Nat) : lbit (List.replicate k (0 : UInt8)) i = false := by
  unfold lbit
  rw [List.getElem?_replicate]
  split <;> exact bbit_zero _

theorem lbit_set (l : List UInt8) (k : Nat) (x : UInt8) (hk : k < l.length) (i : Nat) :
    lbit (l.set k x) i = if i / 8 = k then bbit x (i % 8) else lbit l i := by
  unfold lbit
  rw [List.getElem?_set]
  by_cases h : k = i / 8
  · subst h; simp [hk]
  · have : ¬ i / 8 = k := fun e => h e.symm
    simp [h, this]

/-- `o` is `out` with the bits of `src` or-ed in from bit position `p` on. -/
def Placed (out o : List UInt8) (p : Nat) (src : Nat → Bool) : Prop :=
  o.length = out.length ∧ ∀ i, lbit o i = (lbit out i || (decide (p ≤ i) && src (i - p)))

theorem decide_add_le (p d i : Nat) : decide (p ≤ i ∧ d ≤ i - p) = decide (p + d ≤ i) :=
  decide_eq_decide.mpr (by omega)

theorem Placed.trans {out o1 o2 : List UInt8} {p d : Nat} {f g : Nat → Bool}
    (h1 : Placed out o1 p f) (h2 : Placed o1 o2 (p + d) g) :
    Placed out o2 p (fun j => f j || (decide (d ≤ j) && g (j - d))) :=
  ⟨h2.1.trans h1.1, fun i => by
    rw [h2.2, h1.2, Bool.or_assoc, Bool.and_or_distrib_left, ← Bool.and_assoc, ← Bool.decide_and,
      decide_add_le, Nat.sub_sub]⟩

/-- A source that begins with `d` zeros is the rest of it placed `d` bits later. -/
theorem Placed.shift {out o : List UInt8} {p d : Nat} {f g : Nat → Bool} (h : Placed out o p f)
    (hf : ∀ j, f j = (decide (d ≤ j) && g (j - d))) : Placed out o (p + d) g :=
  ⟨h.1, fun i => by rw [h.2, hf, ← Bool.and_assoc, ← Bool.decide_and, decide_add_le, Nat.sub_sub]⟩

theorem lbit_getElem (l : List UInt8) (i : Nat) (h : i / 8 < l.length) :
    lbit l i = bbit l[i / 8] (i % 8) := by
  unfold lbit; rw [List.getElem?_eq_getElem h]; rfl

theorem orAt_spec (out : List UInt8) (k : Nat) (x : UInt8) (hk : k < out.length) :
    ∃ o, orAt out k x = ok o ∧ Placed out o (8 * k) (bbit x) := by
  refine ⟨out.set k (out[k] ||| x), by simp [orAt, hk], by simp, fun i => ?_⟩
  rw [lbit_set _ _ _ hk]
  by_cases h : i / 8 = k
  · subst h
    rw [if_pos rfl, bbit_or, lbit_getElem _ _ hk, ← Nat.mod_def, decide_eq_true (Nat.mul_div_le i 8),
      Bool.true_and]
  · rw [if_neg h]
    by_cases h' : 8 * k ≤ i
    · rw [bbit_ge x _ (by omega), Bool.and_false, Bool.or_false]
    · rw [decide_eq_false h', Bool.false_and, Bool.or_false]

theorem andAt_spec (out : List UInt8) (k : Nat) (x : UInt8) (hk : k < out.length) :
    ∃ o, andAt out k x = ok o ∧ o.length = out.length ∧
      ∀ i, lbit o i = (lbit out i && (!decide (i / 8 = k) || bbit x (i % 8))) := by
  refine ⟨out.set k (out[k] &&& x), by simp [andAt, hk], by simp, fun i => ?_⟩
  rw [lbit_set _ _ _ hk]
  by_cases h : i / 8 = k
  · subst h
    rw [if_pos rfl, bbit_and, lbit_getElem _ _ hk, decide_eq_true rfl]; rfl
  · rw [if_neg h, decide_eq_false h]; simp

theorem bbit_shl2 (v : UInt8) (k : Nat) :
    bbit (v <<< 2) k = (decide (k < 6) && v.toNat.testBit (5 - k)) := by
  rw [show (2 : UInt8) = (2 : Nat).toUInt8 from rfl, bbit_shl _ _ _ (by decide), bbit,
    show 7 - (k + 2) = 5 - k from Nat.add_sub_add_right 5 2 k]
  congr 2; exact propext (Nat.add_lt_add_iff_right (k := 2) (m := 6))

/-- A byte whose low `s` bits are clear, shifted right by `s`, is the byte placed `s` bits later. -/
theorem bbit_shr_low (x : UInt8) (s j : Nat) (hs : s < 8) (hx : ∀ m, 8 ≤ m + s → bbit x m = false) :
    bbit (x >>> s.toUInt8) j = (decide (s ≤ j) && bbit x (j - s)) := by
  by_cases hj : j < 8
  · exact bbit_shr x s j hs hj
  · rw [bbit_ge _ _ (Nat.not_lt.mp hj), hx _ (by omega), Bool.and_false]

/-- Any byte placed `s` bits later is its right shift followed, in the next byte, by its left shift. -/
theorem bbit_straddle (x : UInt8) (s j : Nat) (h0 : 0 < s) (hs : s < 8) :
    (bbit (x >>> s.toUInt8) j || (decide (8 ≤ j) && bbit (x <<< (8 - s).toUInt8) (j - 8))) =
      (decide (s ≤ j) && bbit x (j - s)) := by
  by_cases hj : j < 8
  · rw [bbit_shr x s j hs hj, decide_eq_false (Nat.not_le.mpr hj), Bool.false_and, Bool.or_false]
  · have h8 := Nat.not_lt.mp hj
    rw [bbit_ge _ _ h8, bbit_shl _ _ _ (Nat.sub_lt (by decide) h0), Nat.sub_add_sub_cancel h8 (Nat.le_of_lt hs),
      decide_eq_true h8, decide_eq_true (Nat.le_trans (Nat.le_of_lt hs) h8), Bool.false_or]

theorem unarmorStep_spec (v : UInt8) (off : Nat) (out : List UInt8) (h : off + 6 ≤ 8 * out.length) :
    ∃ o1 o, orAt out (off / 8) ((v <<< 2) >>> (off % 8).toUInt8) = ok o1 ∧
      (if off % 8 > 2 then orAt o1 (off / 8 + 1) ((v <<< 2) <<< (8 - off % 8).toUInt8) else ok o1) = ok o ∧
      Placed out o off (bbit (v <<< 2)) := by
  -- `off` is bit `r` of byte `q`
  have hoff := Nat.div_add_mod off 8
  have hr : off % 8 < 8 := Nat.mod_lt _ (by decide)
  generalize off / 8 = q at hoff ⊢
  generalize off % 8 = r at hoff hr ⊢
  subst hoff
  obtain ⟨o1, e1, p1⟩ := orAt_spec out q ((v <<< 2) >>> r.toUInt8) (by omega)
  refine ⟨o1, ?_⟩
  by_cases hgt : r > 2
  · obtain ⟨o2, e2, p2⟩ := orAt_spec o1 (q + 1) ((v <<< 2) <<< (8 - r).toUInt8) (by rw [p1.1]; omega)
    -- `p2` places at `8 * (q + 1)`, `Placed.trans` expects `8 * q + 8`
    exact ⟨o2, e1, by rw [if_pos hgt, e2],
      (p1.trans (Nat.mul_add_one .. ▸ p2)).shift fun j => bbit_straddle _ _ j (Nat.lt_trans (by decide) hgt) hr⟩
  · exact ⟨o1, e1, if_neg hgt, p1.shift fun j => bbit_shr_low _ _ j hr fun m hm => by
      rw [bbit_shl2, decide_eq_false (by omega), Bool.false_and]⟩

def AllArmored (data : List UInt8) : Prop := ∀ c ∈ data, (Spec.sixbit c).isSome = true

/-- the no-alloc build's output buffer (384 bytes) is too small -/
def TooLarge (cfg : Cfg) (n : Nat) : Prop := cfg.isNoalloc = true ∧ maxSentence < Spec.unarmorLen n

instance (cfg : Cfg) (n : Nat) : Decidable (TooLarge cfg n) := inferInstanceAs (Decidable (_ ∧ _))

def abit (data : List UInt8) (j : Nat) : Bool :=
  match data[j / 6]? with
  | some c => (match sixbit c with
      | some v => v.testBit (5 - j % 6)
      | none => false)
  | none => false

theorem armoredBit_eq_abit (data : List UInt8) (j : Nat) :
    armoredBit data j = (abit data j).toNat := by
  unfold armoredBit abit
  cases data[j / 6]? with
  | none => rfl
  | some c =>
    simp only []
    cases sixbit c with
    | none => rfl
    | some v => simp [Nat.toNat_testBit]

theorem abit_ge (data : List UInt8) (j : Nat) (h : 6 * data.length ≤ j) : abit data j = false := by
  rw [abit, List.getElem?_eq_none ((Nat.le_div_iff_mul_le (by decide)).mpr (Nat.mul_comm .. ▸ h))]

theorem abit_cons (c : UInt8) (rest : List UInt8) (j v : Nat) (hv : sixbit c = some v) :
    abit (c :: rest) j =
      ((decide (j < 6) && v.testBit (5 - j)) || (decide (6 ≤ j) && abit rest (j - 6))) := by
  unfold abit
  by_cases h : j < 6
  · simp only [Nat.div_eq_of_lt h, Nat.mod_eq_of_lt h, List.getElem?_cons_zero, hv, decide_eq_true h,
      decide_eq_false (Nat.not_le.mpr h), Bool.true_and, Bool.false_and, Bool.or_false]
  · obtain ⟨k, rfl⟩ := Nat.exists_eq_add_of_le (Nat.not_lt.mp h)
    simp only [Nat.add_div_left _ (Nat.zero_lt_succ 5), Nat.add_mod_left, List.getElem?_cons_succ,
      Nat.add_sub_cancel_left, decide_eq_false h, decide_eq_true (Nat.le_add_right 6 k), Bool.true_and,
      Bool.false_and, Bool.false_or]

theorem unarmorChar_cases (c : UInt8) :
    (∃ v, unarmorChar c = ok v ∧ sixbit c = some v.toNat) ∨
      (unarmorChar c = err (.text .armorOutOfRange) ∧ sixbit c = none) := by
  unfold unarmorChar sixbit
  by_cases h1 : 48 ≤ c ∧ c ≤ 87
  · exact .inl ⟨_, if_pos h1, by rw [if_pos h1, UInt8.toNat_sub_of_le _ _ h1.1]; rfl⟩
  · by_cases h2 : 96 ≤ c ∧ c ≤ 119
    · exact .inl ⟨_, by rw [if_neg h1, if_pos h2], by
        rw [if_neg h1, if_pos h2, UInt8.toNat_sub_of_le _ _ (UInt8.le_trans (by decide) h2.1)]; rfl⟩
    · exact .inr ⟨by rw [if_neg h1, if_neg h2], by rw [if_neg h1, if_neg h2]⟩

theorem unarmorLoop_spec : ∀ (data : List UInt8) (off : Nat) (out : List UInt8),
    off + 6 * data.length ≤ 8 * out.length →
    (AllArmored data → ∃ o, unarmorLoop data off out = ok o ∧ Placed out o off (abit data)) ∧
    (¬ AllArmored data → unarmorLoop data off out = err (.text .armorOutOfRange)) := by
  intro data
  induction data with
  | nil =>
    exact fun off out _ => ⟨fun _ => ⟨out, rfl, rfl, fun i => by simp [abit]⟩,
      fun hbad => absurd (fun c hc => by simp at hc) hbad⟩
  | cons c rest ih =>
    intro off out hlen
    rw [List.length_cons, Nat.mul_add_one, ← Nat.add_assoc, Nat.add_right_comm] at hlen
    rw [unarmorLoop]
    rcases unarmorChar_cases c with ⟨v, hv, hs⟩ | ⟨he, hs⟩
    · obtain ⟨o', o1, e', e1, p1⟩ := unarmorStep_spec v off out (Nat.le_trans (Nat.le_add_right _ _) hlen)
      simp only [hv, Res.ok_bind, e', e1]
      obtain ⟨ih1, ih2⟩ := ih (off + 6) o1 (by rw [p1.1]; exact hlen)
      refine ⟨fun hall => ?_, fun hbad => ih2 fun hr => hbad (List.forall_mem_cons.mpr ⟨by rw [hs]; rfl, hr⟩)⟩
      obtain ⟨o2, e2, p2⟩ := ih1 (List.forall_mem_cons.mp hall).2
      have e : abit (c :: rest) = fun j => bbit (v <<< 2) j || (decide (6 ≤ j) && abit rest (j - 6)) :=
        funext fun j => by rw [abit_cons c rest j _ hs, bbit_shl2]
      exact ⟨o2, e2, e ▸ p1.trans p2⟩
    · rw [he, Res.err_bind]
      exact ⟨fun hall => absurd (List.forall_mem_cons.mp hall).1 (by rw [hs]; decide), fun _ => rfl⟩

theorem shlFF_spec (s : Nat) (h : s < 8) :
    ∃ m, shlFF s = ok m ∧ ∀ k, bbit m k = decide (k + s < 8) := by
  refine ⟨(0xff : UInt8) <<< s.toUInt8, by unfold shlFF; rw [if_pos h], ?_⟩
  intro k
  rw [bbit_shl _ _ _ h, bbit_ff]

/-- The mask with the low `s` bits clear, as `maskFill` computes it for `s = 8` too. -/
theorem shlFF8_spec (s : Nat) (h : s ≤ 8) :
    ∃ m, (if s ≤ 7 then shlFF s else if s = 8 then ok (0 : UInt8) else panic Panic.unreachable) = ok m ∧
      ∀ k, bbit m k = decide (k + s < 8) := by
  by_cases h7 : s ≤ 7
  · rw [if_pos h7]; exact shlFF_spec s (Nat.lt_succ_of_le h7)
  · obtain rfl : s = 8 := Nat.le_antisymm h (Nat.not_le.mp h7)
    exact ⟨0, rfl, fun k => by rw [bbit_zero, decide_eq_false (Nat.not_lt.mpr (Nat.le_add_left 8 k))]⟩

/-- `output[k] &= m` where `m` has exactly its low `s` bits clear: if the bit string was `f` cut off
    at the end of byte `k`, it is now `f` cut off `s` bits earlier, at `a`. -/
theorem andAt_cut (out : List UInt8) (k : Nat) {s a : Nat} {m : UInt8} {f : Nat → Bool} (hk : k < out.length)
    (hm : ∀ j, bbit m j = decide (j + s < 8)) (ha : a + s = 8 * k + 8) (hs : s ≤ 8)
    (hout : ∀ i, lbit out i = (f i && decide (i < 8 * k + 8))) :
    ∃ o, andAt out k m = ok o ∧ o.length = out.length ∧ ∀ i, lbit o i = (f i && decide (i < a)) := by
  obtain ⟨o, e, l, b⟩ := andAt_spec out k m hk
  refine ⟨o, e, l, fun i => ?_⟩
  rw [b, hm, hout, Bool.and_assoc, ← decide_not, ← Bool.decide_or, ← Bool.decide_and]
  congr 2; exact propext (by omega)

/-- `bits_in_final_byte`: `x` bits end that many bits into the last of their `(x + 7) / 8` bytes. -/
theorem finalByte_spec (x : Nat) :
    8 * ((x + 7) / 8) + (if x % 8 = 0 then 8 else x % 8) = x + 8 ∧
      0 < (if x % 8 = 0 then 8 else x % 8) ∧ (if x % 8 = 0 then 8 else x % 8) ≤ 8 := by
  split <;> omega

theorem maskFill_spec (out : List UInt8) (n fill bitCount byteCount : Nat)
    (hf : fill ≤ 5) (hB : bitCount = 6 * n) (hC : byteCount = (6 * n + 7) / 8)
    (hl : out.length = byteCount) (hz : ∀ i, 6 * n ≤ i → lbit out i = false) :
    ∃ o, maskFill out bitCount byteCount fill = ok o ∧ o.length = out.length ∧
      ∀ i, lbit o i = (lbit out i && decide (i < 6 * n - fill)) := by
  unfold maskFill
  by_cases hcond : fill ≠ 0 ∧ byteCount ≠ 0
  · rw [if_pos hcond]
    have hk := finalByte_spec bitCount
    generalize (if bitCount % 8 = 0 then 8 else bitCount % 8) = bifb at hk ⊢
    rw [hB, ← hC] at hk
    obtain ⟨k, rfl⟩ := Nat.exists_eq_add_one_of_ne_zero hcond.2
    clear hB hC hz hcond
    have hout : ∀ i, lbit out i = (lbit out i && decide (i < 8 * k + 8)) := fun i => by
      by_cases h : i < 8 * k + 8
      · rw [decide_eq_true h, Bool.and_true]
      · rw [lbit_ge out i (hl ▸ Nat.not_lt.mp h)]; rfl
    have hk' : k < out.length := hl ▸ Nat.lt_succ_self k
    simp only [show subU (k + 1) 1 = ok k from rfl, Res.ok_bind]
    -- `fill` is less than the `6 * n` bits, which end `bifb` bits into byte `k`
    have hN : 6 * n - fill + fill = 8 * k + bifb := by omega
    by_cases hgt : fill > bifb
    · -- the first mask clears the whole last byte, the second the last `fill - bifb` bits before it
      have h2 : fill - bifb ≤ 7 := Nat.le_trans (Nat.sub_le ..) (Nat.le_trans hf (by decide))
      have h0 : k ≠ 0 := by omega
      have h3 : 6 * n - fill + (fill - bifb) = 8 * k := by
        rw [← Nat.add_sub_assoc (Nat.le_of_lt hgt), hN, Nat.add_sub_cancel]
      obtain ⟨j, rfl⟩ := Nat.exists_eq_add_one_of_ne_zero h0
      obtain ⟨m, em, bm⟩ := shlFF8_spec 8 (Nat.le_refl 8)
      obtain ⟨o1, e1, l1, b1⟩ := andAt_cut out (j + 1) hk' bm rfl (Nat.le_refl 8) hout
      obtain ⟨m2, em2, bm2⟩ := shlFF_spec (fill - bifb) (Nat.lt_succ_of_le h2)
      obtain ⟨o2, e2, l2, b2⟩ := andAt_cut o1 j (l1 ▸ Nat.lt_of_succ_lt hk') bm2 h3 (Nat.le_succ_of_le h2) b1
      rw [Nat.min_eq_right (Nat.le_of_lt hgt), Nat.sub_add_cancel hk.2.2, em]
      exact ⟨o2, by simp only [Res.ok_bind, e1, if_pos hgt, show subU (j + 1) 1 = ok j from rfl, em2, e2],
        l2.trans l1, b2⟩
    · -- the one mask clears the last `fill` of the `bifb` bits in the last byte
      have hs : 8 - bifb + fill ≤ 8 :=
        Nat.le_trans (Nat.add_le_add_left (Nat.not_lt.mp hgt) _) (Nat.le_of_eq (Nat.sub_add_cancel hk.2.2))
      have ha : 6 * n - fill + (8 - bifb + fill) = 8 * k + 8 := by
        rw [Nat.add_comm (8 - bifb), ← Nat.add_assoc, hN, Nat.add_assoc, Nat.add_sub_cancel' hk.2.2]
      obtain ⟨m, em, bm⟩ := shlFF8_spec _ hs
      obtain ⟨o1, e1, l1, b1⟩ := andAt_cut out k hk' bm ha hs hout
      rw [Nat.min_eq_left (Nat.not_lt.mp hgt), em]
      exact ⟨o1, by simp only [Res.ok_bind, e1, if_neg hgt], l1, b1⟩
  · rw [if_neg hcond]
    refine ⟨out, rfl, rfl, fun i => ?_⟩
    by_cases h : i < 6 * n - fill
    · rw [decide_eq_true h, Bool.and_true]
    · rw [hz i (by omega)]; rfl

theorem byteCount_eq (n : Nat) :
    n * 6 / 8 + (if n * 6 % 8 ≠ 0 then 1 else 0) = unarmorLen n := by
  rw [unarmorLen, Nat.mul_comm, Nat.add_div (by decide)]
  simp only [Nat.reduceDiv, Nat.reduceMod, Nat.add_zero, Nat.reduceLeDiff, Nat.one_le_iff_ne_zero]

theorem unarmor_eq (cfg : Cfg) (data : List UInt8) (fill : Nat) :
    unarmor cfg data fill =
      if TooLarge cfg data.length then err (.text .unarmorTooLarge)
      else unarmorLoop data 0 (List.replicate (unarmorLen data.length) 0) >>= fun out =>
        maskFill out (data.length * 6) (unarmorLen data.length) fill := by
  unfold unarmor
  simp only [byteCount_eq, Bool.and_eq_true, decide_eq_true_eq]
  rfl

theorem loop_fits (n : Nat) : 0 + 6 * n ≤ 8 * (List.replicate (unarmorLen n) (0 : UInt8)).length := by
  rw [List.length_replicate]; unfold unarmorLen; omega

theorem unarmor_ok (cfg : Cfg) (data : List UInt8) (fill : Nat) (hf : fill ≤ 5)
    (hall : AllArmored data) (hsz : ¬ TooLarge cfg data.length) :
    ∃ out, unarmor cfg data fill = ok out ∧ Spec.IsUnarmored data fill out := by
  rw [unarmor_eq, if_neg hsz]
  obtain ⟨o1, e1, l1, b1⟩ := (unarmorLoop_spec data 0 _ (loop_fits data.length)).1 hall
  have b1' : ∀ i, lbit o1 i = abit data i := fun i => by rw [b1, lbit_replicate]; rfl
  obtain ⟨o2, e2, l2, b2⟩ := maskFill_spec o1 data.length fill (data.length * 6)
    (unarmorLen data.length) hf (Nat.mul_comm ..) rfl (l1.trans List.length_replicate)
    (fun i hi => by rw [b1', abit_ge data i hi])
  refine ⟨o2, by rw [e1, Res.ok_bind, e2], l2.trans (l1.trans List.length_replicate), fun i => ?_⟩
  rw [bit_eq_lbit, b2, b1', armoredBit_eq_abit]
  split <;> simp [*]

theorem unarmor_err_invalid (cfg : Cfg) (data : List UInt8) (fill : Nat)
    (hbad : ¬ AllArmored data) (hsz : ¬ TooLarge cfg data.length) :
    unarmor cfg data fill = err (.text .armorOutOfRange) := by
  rw [unarmor_eq, if_neg hsz, (unarmorLoop_spec data 0 _ (loop_fits data.length)).2 hbad, Res.err_bind]

theorem unarmor_err_large (cfg : Cfg) (data : List UInt8) (fill : Nat) (hsz : TooLarge cfg data.length) :
    unarmor cfg data fill = err (.text .unarmorTooLarge) := by
  rw [unarmor_eq, if_pos hsz]

theorem unarmor_result (cfg : Cfg) (data : List UInt8) (fill : Nat) (hf : fill ≤ 5) :
    (∃ out, unarmor cfg data fill = ok out) ∨ ∃ m, unarmor cfg data fill = err (.text m) := by
  by_cases hsz : TooLarge cfg data.length
  · exact .inr ⟨_, unarmor_err_large cfg data fill hsz⟩
  · by_cases hall : AllArmored data
    · exact .inl ((unarmor_ok cfg data fill hf hall hsz).imp fun _ h => h.1)
    · exact .inr ⟨_, unarmor_err_invalid cfg data fill hall hsz⟩

theorem isUnarmored_unique (data : List UInt8) (fill : Nat) (a b : List UInt8)
    (ha : Spec.IsUnarmored data fill a) (hb : Spec.IsUnarmored data fill b) : a = b :=
  eq_of_bit_eq a b (ha.1.trans hb.1.symm) fun i => (ha.2 i).trans (hb.2 i).symm

end AisVerif
