/-
  Outcomes of the modelled Rust code.

  `Res α` is three-valued: a value, an error value (`Err`, what the Rust code returns in
  `Err(..)`), or a panic (what the dev profile would abort on).  "Never panics" is therefore a
  statement inside the logic.  Imports nothing outside core, so the driver links as a `lean_exe`.
-/
namespace AisVerif

/-- The panic sites that exist in the crate (dev profile: overflow checks and debug assertions on). -/
inductive Panic
  | subOverflow | addOverflow | shlOverflow | index | unreachable | assert | capacity | unwrapNone | utf8
  deriving DecidableEq, Repr, Inhabited

/-- nom error kinds the crate can produce. Only the Error/Failure split is branched on. -/
inductive NomKind
  | eof | tag | takeUntil | digit | mapRes | verify | alt | hexDigit | manyMN | count | tooLarge
  | alphaNumeric | char
  deriving DecidableEq, Repr, Inhabited

/-- The crate's own `&str`/`String` error messages, as an enumeration. -/
inductive ErrMsg
  | idOutOfSequence | fragOutOfSequence | vecFull | unarmorTooLarge | armorOutOfRange
  | unimplementedType | incomplete | illegalSixbit
  deriving DecidableEq, Repr, Inhabited

inductive Err
  | nomError (k : NomKind)      -- nom::Err::Error: recoverable (opt, alt, many_m_n catch it)
  | nomFailure (k : NomKind)    -- nom::Err::Failure: not recoverable
  | text (m : ErrMsg)             -- Error::Nmea from a message string
  | checksum (expected found : Nat)
  deriving DecidableEq, Repr, Inhabited

inductive Res (α : Type) where
  | ok (a : α)
  | err (e : Err)
  | panic (p : Panic)
  deriving Repr

namespace Res

instance [Inhabited α] : Inhabited (Res α) := ⟨.ok default⟩

@[inline] def bind : Res α → (α → Res β) → Res β
  | ok a, f => f a
  | err e, _ => err e
  | panic p, _ => panic p

instance : Monad Res where
  pure := ok
  bind := Res.bind

@[simp] theorem pure_eq (a : α) : (pure a : Res α) = ok a := rfl
@[simp] theorem ok_bind (a : α) (f : α → Res β) : (ok a >>= f) = f a := rfl
@[simp] theorem err_bind (e : Err) (f : α → Res β) : ((err e : Res α) >>= f) = err e := rfl
@[simp] theorem panic_bind (p : Panic) (f : α → Res β) : ((panic p : Res α) >>= f) = panic p := rfl

def isOk : Res α → Bool | ok _ => true | _ => false
def isErr : Res α → Bool | err _ => true | _ => false
def isPanic : Res α → Bool | panic _ => true | _ => false

/-- `f <$> r` without going through the `Functor` instance. -/
def map (f : α → β) : Res α → Res β
  | ok a => ok (f a)
  | err e => err e
  | panic p => panic p

def toOption : Res α → Option α | ok a => some a | _ => none

theorem bind_ne_panic {r : Res α} {f : α → Res β}
    (h1 : ∀ p, r ≠ panic p) (h2 : ∀ a p, r = ok a → f a ≠ panic p) : ∀ p, (r >>= f) ≠ panic p := by
  intro p
  cases r with
  | ok a => exact h2 a p rfl
  | err e => intro h; cases h
  | panic q => exact absurd rfl (h1 q)

end Res

export Res (ok err panic)

theorem bind_eq_ok {α β : Type} {r : Res α} {f : α → Res β} {b : β} :
    (r >>= f) = ok b ↔ ∃ a, r = ok a ∧ f a = ok b := by
  cases r <;> simp

/-- `bind_eq_ok` for a parser's pair `(rest, value)`, the two named at once. -/
theorem bind_pair_eq_ok {α β γ : Type} {r : Res (α × β)} {f : α × β → Res γ} {c : γ} :
    (r >>= f) = ok c ↔ ∃ a b, r = ok (a, b) ∧ f (a, b) = ok c := by
  rw [bind_eq_ok, Prod.exists]

theorem ite_err_eq_ok {α : Type} {c : Prop} [Decidable c] {e : Err} {r : Res α} {a : α} :
    (if c then err e else r) = ok a ↔ ¬ c ∧ r = ok a := by
  split <;> simp [*]

theorem Res.map_eq_ok {α β : Type} {f : α → β} {r : Res α} {b : β} : r.map f = ok b ↔ ∃ a, r = ok a ∧ f a = b := by
  cases r <;> simp [Res.map]


/-! ## Checked machine arithmetic (dev profile) -/

/-- `a - b` on an unsigned type. -/
def subU (a b : Nat) : Res Nat := if b ≤ a then ok (a - b) else panic .subOverflow

/-- `a + b` on a type whose largest value is `2^W - 1` (for `i32` accumulators that only hold
    non-negative values, `W = 31`). -/
def addW (W a b : Nat) : Res Nat := if a + b < 2 ^ W then ok (a + b) else panic .addOverflow

/-- `x << s` at width `W`: the shift amount is checked, the value is truncated. -/
def shlW (W x s : Nat) : Res Nat := if s < W then ok ((x * 2 ^ s) % 2 ^ W) else panic .shlOverflow

end AisVerif
