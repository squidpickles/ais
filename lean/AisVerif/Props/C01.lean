/-
  C01 — parsing is total: no panic, abort or hang on any input or history.

  The model's outcomes are three-valued (`ok` / `err` / `panic`), and every place where the Rust
  code would panic in the dev profile (arithmetic overflow, shift overflow, slice index, `unwrap`,
  `unreachable!()`, `debug_assert!`) is a `panic` outcome of the model.  The theorems say no input,
  state or configuration reaches one.  Termination: every function of the model is accepted by
  Lean as total, without `partial` and without fuel (by structural recursion; `splitNewline` of the
  command-line model recurses on the length of what is left).
-/
import AisVerif.Props.C03
import AisVerif.Props.C09
import AisVerif.Lemmas.Outer
import AisVerif.Lemmas.CleanSentence

namespace AisVerif.C01

/-- `messages::parse` on any byte string, in any build. -/
theorem parseMessage_total (cfg : Cfg) (bs : Bytes) (p : Panic) : parseMessage cfg bs ≠ panic p :=
  C09.parseMessage_ne_panic cfg bs p

/-- `messages::unarmor` on any byte string with a fill count of 0-5, in any build. -/
theorem unarmor_total (cfg : Cfg) (data : Bytes) (fill : Nat) (hf : fill ≤ 5) (p : Panic) :
    unarmor cfg data fill ≠ panic p :=
  C03.unarmor_ne_panic cfg data fill hf p

/-- Outside that range the public function can panic (`final_idx - 1` underflows for a one-byte
    output); the property restricts the fill count to 0-5, as the sentence grammar does. -/
example : unarmor .std [0x30] 7 = panic .subOverflow := by rfl

/-- **`AisParser::parse` is total**: for every byte string fed as a line, in every parser state
    (not only the reachable ones), with decoding requested or not, in each build configuration, the
    outcome is a result or an error value — never a panic. -/
theorem step_total (cfg : Cfg) (st : PState) (line : Bytes) (dec : Bool) (p : Panic) :
    (step cfg st line dec).2 ≠ panic p := by
  refine step_elim cfg st line dec (fun _ _ => nofun) (fun q hp => absurd hp ((cl_parseNmeaSentence cfg line).1 q))
    (fun _ _ _ _ _ => nofun) fun raw s hp => ?_
  obtain ⟨b, hwf, -, rfl⟩ := parsed_body hp
  exact (cl_stepSentence cfg st _ dec (Nat.le_of_lt_succ hwf.fill.2.2)).1 p

/-- Every result of a whole history is a value or an error. -/
theorem run_total (cfg : Cfg) (dec : Bool) : ∀ (lines : List Bytes) (st : PState),
    ∀ r ∈ (run cfg dec st lines).1, ∀ p, r ≠ panic p := by
  intro lines
  induction lines with
  | nil => intro st r hr; cases hr
  | cons l ls ih =>
    intro st r hr p
    simp only [run, List.mem_cons] at hr
    rcases hr with rfl | hr
    · exact step_total cfg st l dec p
    · exact ih _ r hr p

/-- Regression witness for the repaired defect D3: the empty unarmor with fill bits is a plain value. -/
example : unarmor .std [] 5 = ok [] := by rfl

end AisVerif.C01
