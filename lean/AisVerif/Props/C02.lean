/-
  C02 — checksum gate: a line with a wrong checksum is never accepted.
-/
import AisVerif.Lemmas.CleanSentence
import AisVerif.Lemmas.Render

namespace AisVerif.C02

/-- The statement's reading of a line, existentially: an optional tag block, the start delimiter,
    the body up to the *first* following '*' (it contains none), then the characters after that '*'. -/
def Framed (line body rest : Bytes) : Prop :=
  ∃ (pre : Bytes) (d : UInt8),
    line = pre ++ [d] ++ body ++ [0x2A] ++ rest ∧ (d = 0x21 ∨ d = 0x24) ∧
    (pre = [] ∨ ∃ tb, pre = [0x5C] ++ tb ++ [0x5C] ∧ (0x5C : UInt8) ∉ tb) ∧ (0x2A : UInt8) ∉ body

/-- The hexadecimal value that follows the '*': the (at most eight) leading hex digits. -/
def transmitted (rest : Bytes) : Nat := hexVal ((rest.takeWhile isHexDigit).take 8)

/-- **Accepted ⇒ the checksum gate held.**  Whatever the parser state and the decode flag, a line
    that yields Complete or Incomplete is framed as the statement says, a hexadecimal value follows
    the first '*', and it equals the XOR of all bytes strictly between delimiter and that '*'. -/
theorem accept_implies_checksum (cfg : Cfg) (st st' : PState) (line : Bytes) (dec : Bool) (f : Frag)
    (h : step cfg st line dec = (st', ok f)) :
    ∃ body rest, Framed line body rest ∧ rest.takeWhile isHexDigit ≠ [] ∧
      transmitted rest = (xorAll body).toNat := by
  obtain ⟨raw, s, hp, -⟩ := step_ok (congrArg Prod.snd h)
  obtain ⟨pre, d, b, rest, ⟨hl, hpre, hd, -, hs, hh, -⟩, rfl, -, hc⟩ := parseNmeaSentence_eq_ok.mp hp
  exact ⟨_, rest, ⟨pre, d, hl, hd, hpre, hs⟩, hh, hc.symm⟩

/-- **Otherwise well-formed and different ⇒ Checksum error carrying (transmitted, computed); the
    parser state is untouched.** -/
theorem mismatch_is_checksum_error (cfg : Cfg) (st : PState) (line raw : Bytes) (s : Sentence) (cks : Nat)
    (dec : Bool) (hp : parseNmeaSentence cfg line = ok (raw, s, cks)) (hne : cks ≠ (xorAll raw).toNat) :
    step cfg st line dec = (st, err (.checksum cks (xorAll raw).toNat)) :=
  step_of_mismatch cfg st dec hp hne

/-- **A Checksum error is returned only for a well-formed line whose two values differ** — so when
    they agree the line is never rejected with a checksum error — and it leaves the state untouched. -/
theorem checksum_error_only_on_mismatch (cfg : Cfg) (st : PState) (line : Bytes) (dec : Bool) (e f : Nat)
    (h : (step cfg st line dec).2 = err (.checksum e f)) :
    ∃ raw s, parseNmeaSentence cfg line = ok (raw, s, e) ∧ f = (xorAll raw).toNat ∧ e ≠ f ∧
      (step cfg st line dec).1 = st := by
  revert h
  refine step_elim cfg st line dec (fun x hp h => ?_) (fun _ _ => nofun) (fun raw s cks hp hc h => ?_)
    (fun raw s hp h => ?_)
  · cases h; exact absurd hp ((cl_parseNmeaSentence cfg line).2 e f)
  · cases h; exact ⟨raw, s, hp, rfl, hc, rfl⟩
  · obtain ⟨b, hwf, -, rfl⟩ := parsed_body hp
    exact absurd h ((cl_stepSentence cfg st _ dec (Nat.le_of_lt_succ hwf.fill.2.2)).2 e f)

/-! ### Every body, all 256 transmitted values -/

/-- **For every well-formed body and every transmitted checksum value `c` (as two hex digits):** the line
    `!<body>*<c>` is processed as its sentence exactly when `c` is the XOR of the body's bytes; for each
    of the other 255 values the answer is the checksum error carrying both values, and the parser state
    is untouched — whatever the state, with decoding on or off, in every build. -/
theorem rendered_checksum_gate (cfg : Cfg) (st : PState) (dec : Bool) (b : Body) (hwf : b.WF cfg)
    (hs : (0x2A : UInt8) ∉ b.render) (c : Fin 256) :
    (c.val = (xorAll b.render).toNat →
      step cfg st (renderLineWith b c.val) dec = stepSentence cfg st b.sentence dec) ∧
    (c.val ≠ (xorAll b.render).toNat →
      step cfg st (renderLineWith b c.val) dec = (st, err (.checksum c.val (xorAll b.render).toNat))) := by
  have hparse := parse_renderLineWith cfg b hwf hs c
  exact ⟨step_of_parse cfg st dec hparse, step_of_mismatch cfg st dec hparse⟩

/-- The value `rendered_checksum_gate` accepts is one of the 256, and one only. -/
theorem exactly_one_value_accepted (b : Body) :
    ∃ c : Fin 256, c.val = (xorAll b.render).toNat ∧ ∀ d : Fin 256, d.val = (xorAll b.render).toNat → d = c :=
  ⟨⟨(xorAll b.render).toNat, UInt8.toNat_lt _⟩, rfl, fun _ hd => Fin.ext hd⟩

end AisVerif.C02
