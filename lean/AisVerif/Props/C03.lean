/-
  C03 — unarmoring is the exact 6-bit unpacking with fill bits cleared.

  `Spec.IsUnarmored data fill out` (Spec/Unarmor.lean) is the statement verbatim: `out` has
  ceil(6n/8) bytes and its bit `i` (most significant first) is bit `i` of the concatenated 6-bit
  values for `i < 6n - fill` and 0 for every other `i`.
-/
import AisVerif.Lemmas.Armor

namespace AisVerif.C03
open Spec

/-- **Every string over the alphabet, every fill count 0-5** (std and alloc builds; the no-alloc
    build when the output fits its 384-byte buffer): the result is a value and it is *the*
    unarmoring. -/
theorem unarmor_correct (cfg : Cfg) (data : List UInt8) (fill : Nat) (hf : fill ≤ 5)
    (hall : AllArmored data) (hsz : ¬ TooLarge cfg data.length) :
    ∃ out, unarmor cfg data fill = ok out ∧ Spec.IsUnarmored data fill out :=
  unarmor_ok cfg data fill hf hall hsz

/-- The specification determines the output uniquely (so "a value satisfying it" is "the value"). -/
theorem unarmor_unique (data : List UInt8) (fill : Nat) (a b : List UInt8)
    (ha : Spec.IsUnarmored data fill a) (hb : Spec.IsUnarmored data fill b) : a = b :=
  isUnarmored_unique data fill a b ha hb

/-- **Any string containing a byte outside the alphabet yields an error, never a value** (whatever
    the fill count). -/
theorem invalid_byte_is_error (cfg : Cfg) (data : List UInt8) (fill : Nat) (hbad : ¬ AllArmored data) :
    ∃ e, unarmor cfg data fill = err e := by
  by_cases hsz : TooLarge cfg data.length
  · exact ⟨_, unarmor_err_large cfg data fill hsz⟩
  · exact ⟨_, unarmor_err_invalid cfg data fill hbad hsz⟩

/-- With an allocator nothing is ever too large. -/
theorem std_never_too_large (n : Nat) : ¬ TooLarge .std n ∧ ¬ TooLarge .alloc n := by
  constructor <;> (intro h; cases h.1)

/-- Corollaries spelled out: length, and zero beyond the data / in the fill bits. -/
theorem unarmor_length_and_padding (cfg : Cfg) (data : List UInt8) (fill : Nat) (out : List UInt8)
    (hf : fill ≤ 5) (hall : AllArmored data) (hsz : ¬ TooLarge cfg data.length)
    (h : unarmor cfg data fill = ok out) :
    out.length = (6 * data.length + 7) / 8 ∧ ∀ i, 6 * data.length - fill ≤ i → bit out i = 0 := by
  obtain ⟨out', h', hs⟩ := unarmor_ok cfg data fill hf hall hsz
  obtain rfl : out = out' := Res.ok.inj (h.symm.trans h')
  exact ⟨hs.1, fun i hi => by rw [hs.2 i, if_neg (Nat.not_lt.mpr hi)]⟩

/-- `unarmor` never panics for a fill count of 0-5 (used by C01). -/
theorem unarmor_ne_panic (cfg : Cfg) (data : List UInt8) (fill : Nat) (hf : fill ≤ 5) (p : Panic) :
    unarmor cfg data fill ≠ panic p := by
  rcases unarmor_result cfg data fill hf with ⟨_, h⟩ | ⟨_, h⟩ <;> rw [h] <;> exact nofun

/-- The alphabet is exactly the 64 characters of the statement: '0'-'W' ↦ 0-39, '`'-'w' ↦ 40-63. -/
theorem alphabet : ∀ c : Fin 256,
    Spec.sixbit (UInt8.ofNat c.val) =
      (if 48 ≤ c.val ∧ c.val ≤ 87 then some (c.val - 48) else if 96 ≤ c.val ∧ c.val ≤ 119 then some (c.val - 56) else none) := by
  intro c
  -- `≤` on `UInt8` is `≤` on `toNat`, and below 256 `ofNat` loses nothing
  have h : (UInt8.ofNat c.val).toNat = c.val := UInt8.toNat_ofNat_of_lt' c.isLt
  unfold sixbit
  simp only [UInt8.le_iff_toNat_le, h]
  rfl

/-! ### The inverse direction: armoring, and the round trip -/

/-- **Every bit string** (the first `nbits` bits of any byte string): unarmoring its armoring gives back
    exactly those bits, zero everywhere else, in ⌈6·chars/8⌉ bytes. -/
theorem unarmor_of_armor (cfg : Cfg) (bs : List UInt8) (nbits : Nat)
    (hsz : ¬ TooLarge cfg ((nbits + 5) / 6)) :
    ∃ out, unarmor cfg (Spec.armor bs nbits).1 (Spec.armor bs nbits).2 = ok out ∧
      out.length = Spec.unarmorLen ((nbits + 5) / 6) ∧
      ∀ i, Spec.bit out i = if i < nbits then Spec.bit bs i else 0 :=
  unarmor_armor cfg bs nbits hsz

/-- **Every byte string** round-trips, up to the single zero byte that appears when `6·chars` crosses a
    byte boundary (`pad ≤ 1`, `unarmor_pad_le_one`). -/
theorem armor_roundtrip (cfg : Cfg) (bs : List UInt8)
    (hsz : ¬ TooLarge cfg ((8 * bs.length + 5) / 6)) :
    unarmor cfg (Spec.armor bs (8 * bs.length)).1 (Spec.armor bs (8 * bs.length)).2 =
      ok (bs ++ List.replicate (Spec.unarmorLen ((8 * bs.length + 5) / 6) - bs.length) 0) ∧
    Spec.unarmorLen ((8 * bs.length + 5) / 6) - bs.length ≤ 1 :=
  ⟨unarmor_armor_padded cfg bs hsz, unarmor_pad_le_one bs.length⟩

/-- Armoring only produces characters of the alphabet, and a fill count of 0-5. -/
theorem armor_wellformed (bs : List UInt8) (nbits : Nat) :
    AllArmored (Spec.armor bs nbits).1 ∧ (Spec.armor bs nbits).2 ≤ 5 ∧ (Spec.armor bs nbits).1.length = (nbits + 5) / 6 :=
  ⟨armor_allArmored bs nbits, armor_fill_le bs nbits, armor_length bs nbits⟩

/-- Non-vacuity: the model reproduces the crate's unit-test vectors. -/
example : unarmor .std [0x39] 0 = ok [0b00100100] := by rfl
example : unarmor .std [0x39, 0x71, 0x57, 0x72] 4 = ok [0b00100111, 0b10011001, 0b11110000] := by rfl
example : unarmor .std [0x39, 0x71, 0x57] 3 = ok [0b00100111, 0b10011000, 0b00000000] := by rfl
example : unarmor .std [] 3 = ok [] := by rfl

end AisVerif.C03
