/-
  C04 — every fixed-position field decodes to the transmitted value.

  For each layout (and branch) of ITU-R M.1371 the table `Spec.Layout.*` lists key, offset and width
  of every integer / flag / identifier field.  The theorems say: whenever `messages::parse` returns
  a message for a payload whose type bits select that layout, the message reports under each key
  exactly `field bs off w` — the bits at the specified position, most significant first — whatever
  the neighbouring bits are.  (Sentinel-carrying, scaled, enumerated and text fields are C10-C13;
  the communication state is C16.)
-/
import AisVerif.Spec.Layouts
import AisVerif.Lemmas.Decoded
import AisVerif.Lemmas.Encode
import AisVerif.Lemmas.Interrogation
import AisVerif.Props.C05

namespace AisVerif.C04
open Spec

/-- `m` reports every field of `table` as the bits at its specified position. -/
def Reports (m : Msg) (bs : List UInt8) (table : List FieldSpec) : Prop :=
  ∀ e ∈ table, m.get e.key = some (e.render bs)

theorem reports_append {m : Msg} {bs : List UInt8} {s t : List FieldSpec}
    (h1 : Reports m bs s) (h2 : Reports m bs t) : Reports m bs (s ++ t) :=
  List.forall_mem_append.2 ⟨h1, h2⟩

theorem t05 (cfg : Cfg) (bs : List UInt8) (m : Msg) (ht : field bs 0 6 = 5)
    (h : parseMessage cfg bs = ok m) : Reports m bs Layout.t05 := by
  obtain ⟨_, rfl⟩ := Decoded.of_parse ht h
  exact forall_mem_of_map_eq (by rfl)

theorem t06 (cfg : Cfg) (bs : List UInt8) (m : Msg) (ht : field bs 0 6 = 6)
    (h : parseMessage cfg bs = ok m) : Reports m bs Layout.t06 := by
  obtain ⟨_, _, rfl⟩ := Decoded.of_parse ht h
  exact forall_mem_of_map_eq (by rfl)

theorem t08 (cfg : Cfg) (bs : List UInt8) (m : Msg) (ht : field bs 0 6 = 8)
    (h : parseMessage cfg bs = ok m) : Reports m bs Layout.t08 := by
  obtain ⟨_, _, rfl⟩ := Decoded.of_parse ht h
  exact forall_mem_of_map_eq (by rfl)

theorem t10 (cfg : Cfg) (bs : List UInt8) (m : Msg) (ht : field bs 0 6 = 10)
    (h : parseMessage cfg bs = ok m) : Reports m bs Layout.t10 := by
  obtain ⟨_, rfl⟩ := Decoded.of_parse ht h
  exact forall_mem_of_map_eq (by rfl)

theorem t12 (cfg : Cfg) (bs : List UInt8) (m : Msg) (ht : field bs 0 6 = 12)
    (h : parseMessage cfg bs = ok m) : Reports m bs Layout.t12 := by
  obtain ⟨_, _, rfl⟩ := Decoded.of_parse ht h
  exact forall_mem_of_map_eq (by rfl)

theorem t14 (cfg : Cfg) (bs : List UInt8) (m : Msg) (ht : field bs 0 6 = 14)
    (h : parseMessage cfg bs = ok m) : Reports m bs Layout.t14 := by
  obtain ⟨_, _, rfl⟩ := Decoded.of_parse ht h
  exact forall_mem_of_map_eq (by rfl)

theorem t17 (cfg : Cfg) (bs : List UInt8) (m : Msg) (ht : field bs 0 6 = 17)
    (h : parseMessage cfg bs = ok m) : Reports m bs Layout.t17 := by
  obtain ⟨_, _, rfl⟩ := Decoded.of_parse ht h
  exact forall_mem_of_map_eq (by rfl)

theorem t18 (cfg : Cfg) (bs : List UInt8) (m : Msg) (ht : field bs 0 6 = 18)
    (h : parseMessage cfg bs = ok m) : Reports m bs Layout.t18 := by
  obtain ⟨_, rfl⟩ := Decoded.of_parse ht h
  exact forall_mem_of_map_eq (by rfl)

theorem t19 (cfg : Cfg) (bs : List UInt8) (m : Msg) (ht : field bs 0 6 = 19)
    (h : parseMessage cfg bs = ok m) : Reports m bs Layout.t19 := by
  obtain ⟨_, rfl⟩ := Decoded.of_parse ht h
  exact forall_mem_of_map_eq (by rfl)

theorem t21 (cfg : Cfg) (bs : List UInt8) (m : Msg) (ht : field bs 0 6 = 21)
    (h : parseMessage cfg bs = ok m) : Reports m bs Layout.t21 := by
  obtain ⟨_, rfl⟩ := Decoded.of_parse ht h
  exact forall_mem_of_map_eq (by rfl)

theorem t27 (cfg : Cfg) (bs : List UInt8) (m : Msg) (ht : field bs 0 6 = 27)
    (h : parseMessage cfg bs = ok m) : Reports m bs Layout.t27 := by
  obtain ⟨_, rfl⟩ := Decoded.of_parse ht h
  exact forall_mem_of_map_eq (by rfl)

theorem t16one (cfg : Cfg) (bs : List UInt8) (m : Msg) (ht : field bs 0 6 = 16)
    (h : parseMessage cfg bs = ok m) : Reports m bs Layout.t16one := by
  obtain ⟨_, rfl⟩ := Decoded.of_parse ht h
  exact forall_mem_of_map_eq (by rfl)

theorem t01 (cfg : Cfg) (bs : List UInt8) (m : Msg) (ht : 1 ≤ field bs 0 6 ∧ field bs 0 6 ≤ 3)
    (h : parseMessage cfg bs = ok m) : Reports m bs Layout.t01 := by
  obtain ⟨_, r, _, rfl⟩ := Decoded.of_parse_T01 ht h
  exact forall_mem_of_map_eq (by rfl)

theorem t04 (cfg : Cfg) (bs : List UInt8) (m : Msg) (ht : field bs 0 6 = 4)
    (h : parseMessage cfg bs = ok m) : Reports m bs Layout.t04 := by
  obtain ⟨_, r, _, rfl⟩ := Decoded.of_parse ht h
  exact forall_mem_of_map_eq (by rfl)

theorem t11 (cfg : Cfg) (bs : List UInt8) (m : Msg) (ht : field bs 0 6 = 11)
    (h : parseMessage cfg bs = ok m) : Reports m bs Layout.t04 := by
  obtain ⟨_, r, _, rfl⟩ := Decoded.of_parse ht h
  exact forall_mem_of_map_eq (by rfl)

theorem t09 (cfg : Cfg) (bs : List UInt8) (m : Msg) (ht : field bs 0 6 = 9)
    (h : parseMessage cfg bs = ok m) : Reports m bs Layout.t09 := by
  obtain ⟨_, r, _, rfl⟩ := Decoded.of_parse ht h
  exact forall_mem_of_map_eq (by rfl)

/-- Type 16 with the second assignment present (144 bits). -/
theorem t16two (cfg : Cfg) (bs : List UInt8) (m : Msg) (ht : field bs 0 6 = 16) (hL : 144 ≤ 8 * bs.length)
    (h : parseMessage cfg bs = ok m) : Reports m bs Layout.t16two := by
  obtain ⟨_, rfl⟩ := Decoded.of_parse ht h
  simp only [hL]
  exact forall_mem_of_map_eq (by rfl)

theorem t24A (cfg : Cfg) (bs : List UInt8) (m : Msg) (ht : field bs 0 6 = 24) (hp : field bs 38 2 = 0)
    (h : parseMessage cfg bs = ok m) : Reports m bs Layout.t24A := by
  obtain ⟨_, rfl⟩ := Decoded.of_parse_T24A ht hp h
  exact forall_mem_of_map_eq (by rfl)

theorem t24B (cfg : Cfg) (bs : List UInt8) (m : Msg) (ht : field bs 0 6 = 24) (hp : field bs 38 2 = 1)
    (h : parseMessage cfg bs = ok m) : Reports m bs Layout.t24B := by
  obtain ⟨_, rfl⟩ := Decoded.of_parse_T24B ht hp h
  exact forall_mem_of_map_eq (by rfl)

/-! ### Lists (types 7, 13, 20): element `i` at its own offset, for every element reported -/

/-- A message whose list part is `n` elements of width `w` from bit `q` reports `n` as the count … -/
theorem get_count_elems (kind : Kind) (bs : List UInt8) (elem : List UInt8 → Nat → List (Key × Val)) (w q n : Nat) :
    (⟨kind, hdr bs ++ flattenList (elemsFrom elem bs w q n)⟩ : Msg).get .count = some (.nat n) :=
  congrArg (fun l => some (Val.nat l)) (elemsFrom_length elem bs w n q)

/-- … and field `k` of element `i < n` as the element at bit `q + w * i` has it. -/
theorem get_idx_elems (kind : Kind) (bs : List UInt8) (elem : List UInt8 → Nat → List (Key × Val)) (w q n : Nat)
    (k : Key) (i : Nat) (hi : i < n) :
    (⟨kind, hdr bs ++ flattenList (elemsFrom elem bs w q n)⟩ : Msg).get (.idx k i) = (elem bs (q + w * i)).lookup k :=
  lookup_idx_indexed k (by rw [elemsFrom_getElem?, if_pos hi])

theorem acks_reports (kind : Kind) (bs : List UInt8) (i : Nat) (hi : i < min 4 ((8 * bs.length - 40) / 32)) :
    Reports (Spec.decodeAcks kind bs) bs (Layout.ack i) := by
  have hget := fun k => get_idx_elems kind bs Spec.ackAt 32 40 _ k i hi
  refine List.forall_mem_cons.2 ⟨hget _, List.forall_mem_singleton.2 ((hget _).trans ?_)⟩
  unfold Spec.ackAt; rw [Nat.add_right_comm]; rfl

/-- Types 7 and 13: every reported acknowledgement `i` carries MMSI and sequence number from
    bits `40 + 32 i` / `70 + 32 i`; the number reported is `min 4 ((L - 40) / 32)`. -/
theorem t07 (cfg : Cfg) (bs : List UInt8) (m : Msg) (ht : field bs 0 6 = 7)
    (h : parseMessage cfg bs = ok m) :
    Reports m bs Spec.common ∧ m.get .count = some (.nat (min 4 ((8 * bs.length - 40) / 32))) ∧
      ∀ i, i < min 4 ((8 * bs.length - 40) / 32) → Reports m bs (Layout.ack i) := by
  obtain ⟨_, rfl⟩ := Decoded.of_parse ht h
  exact ⟨forall_mem_of_map_eq (by rfl), get_count_elems .., acks_reports _ bs⟩

theorem t13 (cfg : Cfg) (bs : List UInt8) (m : Msg) (ht : field bs 0 6 = 13)
    (h : parseMessage cfg bs = ok m) :
    Reports m bs Spec.common ∧ m.get .count = some (.nat (min 4 ((8 * bs.length - 40) / 32))) ∧
      ∀ i, i < min 4 ((8 * bs.length - 40) / 32) → Reports m bs (Layout.ack i) := by
  obtain ⟨_, rfl⟩ := Decoded.of_parse ht h
  exact ⟨forall_mem_of_map_eq (by rfl), get_count_elems .., acks_reports _ bs⟩

theorem reservations_report (bs : List UInt8) (i : Nat) (hi : i < min 4 ((8 * bs.length - 40) / 30)) :
    Reports (Spec.decodeT20 bs) bs (Layout.reservation i) := by
  have hget := fun k => get_idx_elems .DataLinkManagementMessage bs Spec.reservationAt 30 40 _ k i hi
  refine List.forall_mem_cons.2 ⟨hget _, List.forall_mem_cons.2 ⟨(hget _).trans ?_, List.forall_mem_cons.2
    ⟨(hget _).trans ?_, List.forall_mem_singleton.2 ((hget _).trans ?_)⟩⟩⟩ <;>
  · simp only [Spec.reservationAt, Nat.add_right_comm 40 (30 * i)]; rfl

/-- Type 20: reservation `i` from bits `40 + 30 i`; `min 4 ((L - 40) / 30)` of them. -/
theorem t20 (cfg : Cfg) (bs : List UInt8) (m : Msg) (ht : field bs 0 6 = 20)
    (h : parseMessage cfg bs = ok m) :
    Reports m bs Spec.common ∧ m.get .count = some (.nat (min 4 ((8 * bs.length - 40) / 30))) ∧
      ∀ i, i < min 4 ((8 * bs.length - 40) / 30) → Reports m bs (Layout.reservation i) := by
  obtain ⟨_, rfl⟩ := Decoded.of_parse ht h
  exact ⟨forall_mem_of_map_eq (by rfl), get_count_elems .., reservations_report bs⟩

/-- Station `i`, if it starts at bit `q`, reports its MMSI from `q` and its first request type from `q + 30`. -/
theorem station_reports (bs : List UInt8) (sts : List (List (Key × Val))) (i q : Nat)
    (h : sts[i]? = some (Spec.station bs q).1) :
    Reports (Spec.renderStations bs sts) bs
      [⟨.idx .stations_mmsi i, q, 30, .nat⟩, ⟨.idx (.idx .messages_type 0) i, q + 30, 6, .nat⟩] := by
  have hget := fun k => renderStations_get_idx bs k h
  exact List.forall_mem_cons.2 ⟨(hget _).trans (station_lookup bs q).1,
    List.forall_mem_singleton.2 ((hget _).trans (station_lookup bs q).2)⟩

theorem t15first (cfg : Cfg) (bs : List UInt8) (m : Msg) (ht : field bs 0 6 = 15)
    (h : parseMessage cfg bs = ok m) : Reports m bs Layout.t15first := by
  obtain ⟨rest, rfl⟩ := decodeT15_ok (Decoded.of_parse ht h).2
  exact reports_append (forall_mem_of_map_eq (by rfl)) (station_reports bs _ 0 40 rfl)

/-- Second station of the 160-bit form: MMSI at 110, request type at 140 (after the D6 fix). -/
theorem t15station2 (cfg : Cfg) (bs : List UInt8) (m : Msg) (ht : field bs 0 6 = 15) (hL : 160 ≤ 8 * bs.length)
    (h : parseMessage cfg bs = ok m) : Reports m bs Layout.t15station2 := by
  have h2 := (Decoded.of_parse ht h).2
  rw [decodeT15_two bs (Nat.le_trans (by decide) hL)] at h2
  cases h2
  exact station_reports bs _ 1 110 rfl

/-! ### Independence from the neighbouring fields

`field bs off w` looks at the bits `off … off+w-1` and at nothing else: two payloads that agree on
those bits report the same value, whatever all the other fields hold. -/

theorem field_indep (a b : List UInt8) (off w : Nat)
    (h : ∀ i, off ≤ i → i < off + w → bit a i = bit b i) : field a off w = field b off w :=
  field_congr fun j hj => h (off + j) (by omega) (by omega)

/-- The value a field reports is below `2^w`: it can never carry bits of a neighbour. -/
theorem field_bound (bs : List UInt8) (off w : Nat) : field bs off w < 2 ^ w := field_lt bs off w

/-- Changing a row's bits changes that row only: every other row of a table whose bit range is
    disjoint from `[off, off+w)` renders identically on payloads that differ only inside that range. -/
theorem render_indep (e : FieldSpec) (a b : List UInt8) (off w : Nat)
    (hdisj : e.off + e.w ≤ off ∨ off + w ≤ e.off)
    (hsame : ∀ i, ¬ (off ≤ i ∧ i < off + w) → bit a i = bit b i) : e.render a = e.render b :=
  congrArg e.renderVal (field_indep a b e.off e.w fun i h1 h2 => hsame i (by omega))

/-! ### The statement's own form: transmitted values come back

`encodeRows n rows` (Lemmas/Encode.lean) is the `n`-bit payload that carries each row's value at its
bit offset and width, most significant bit first (`field_encodeRows`: every row reads back).  For
every assignment of values to non-overlapping fields, a message decoded from that payload reports
exactly those values under the keys of the layout table. -/

theorem roundtrip (m : Msg) (table : List FieldSpec) (n : Nat) (rows : List Row) (hok : RowsOK n rows)
    (hrep : Reports m (encodeRows n rows) table) :
    ∀ e ∈ table, ∀ r ∈ rows, r.off = e.off → r.w = e.w → m.get e.key = some (e.renderVal r.v) := by
  intro e he r hr ho hw
  rw [hrep e he, FieldSpec.render, ← ho, ← hw, field_encodeRows n rows hok r hr]

/-- The conclusion of `roundtrip` at row `i` of the table and row `i` of the transmitted values; for literal lists
    all four side conditions are `rfl`. -/
theorem at_row {m : Msg} {table : List FieldSpec} {rows : List Row}
    (h : ∀ e ∈ table, ∀ r ∈ rows, r.off = e.off → r.w = e.w → m.get e.key = some (e.renderVal r.v))
    (i : Nat) {e : FieldSpec} {r : Row} (he : table[i]? = some e) (hr : rows[i]? = some r)
    (ho : r.off = e.off) (hw : r.w = e.w) : m.get e.key = some (e.renderVal r.v) :=
  h e (List.mem_of_getElem? he) r (List.mem_of_getElem? hr) ho hw

/-- Instance: a type-6 header. Whatever MMSIs, sequence number, flags and application identifier are
    transmitted (each within its width), the decoded message reports exactly them. -/
theorem roundtrip_t06 (cfg : Cfg) (rep mmsi seqno dest retransmit dac fid : Nat) (m : Msg)
    (h1 : rep < 2 ^ 2) (h2 : mmsi < 2 ^ 30) (h3 : seqno < 2 ^ 2) (h4 : dest < 2 ^ 30) (h5 : retransmit < 2 ^ 1)
    (h6 : dac < 2 ^ 10) (h7 : fid < 2 ^ 6)
    (hp : parseMessage cfg (encodeRows 88 [⟨0, 6, 6⟩, ⟨6, 2, rep⟩, ⟨8, 30, mmsi⟩, ⟨38, 2, seqno⟩, ⟨40, 30, dest⟩,
        ⟨70, 1, retransmit⟩, ⟨72, 10, dac⟩, ⟨82, 6, fid⟩]) = ok m) :
    m.get .repeat_indicator = some (.nat rep) ∧ m.get .mmsi = some (.nat mmsi) ∧ m.get .seqno = some (.nat seqno) ∧
    m.get .dest_mmsi = some (.nat dest) ∧ m.get .retransmit = some (.bool (retransmit == 1)) ∧
    m.get .dac = some (.nat dac) ∧ m.get .fid = some (.nat fid) := by
  have hok : RowsOK 88 [⟨0, 6, 6⟩, ⟨6, 2, rep⟩, ⟨8, 30, mmsi⟩, ⟨38, 2, seqno⟩, ⟨40, 30, dest⟩,
      ⟨70, 1, retransmit⟩, ⟨72, 10, dac⟩, ⟨82, 6, fid⟩] := by
    unfold RowsOK
    simp only [List.forall_mem_cons, List.pairwise_cons, List.not_mem_nil, false_imp_iff, implies_true,
      List.Pairwise.nil, and_true]
    omega
  have rt := at_row (roundtrip m Layout.t06 88 _ hok
    (t06 cfg _ m (field_encodeRows 88 _ hok ⟨0, 6, 6⟩ (List.mem_cons_self ..)) hp))
  exact ⟨rt 1 rfl rfl rfl rfl, rt 2 rfl rfl rfl rfl, rt 3 rfl rfl rfl rfl, rt 4 rfl rfl rfl rfl,
    rt 5 rfl rfl rfl rfl, rt 6 rfl rfl rfl rfl, rt 7 rfl rfl rfl rfl⟩

/-! ### The whole pipeline: values → bits → characters → line → parser → values -/

/-- **Transmit and receive.** Take any assignment of values to non-overlapping fields (`rows`), pack it
    into an `n`-bit payload (`n` a positive multiple of 24, so that bits, characters and bytes all end together:
    72, 96, 168, 312 … bits; at most 384 characters, `hcap`), armor it, render `!AIVDM,1,1,,A,<payload>,0*<checksum>`
    and feed that line, with decoding on, to a parser in any state, in any build.  If `parseMessage` accepts the
    packed bytes (`hp`), the answer is `Complete`, carrying exactly that message, the parser state is untouched,
    and — whenever the message reports a layout `table` — every transmitted value comes back under its key. -/
theorem line_roundtrip (cfg : Cfg) (st : PState) (table : List FieldSpec) (n : Nat) (rows : List Row) (m : Msg)
    (hok : RowsOK n rows) (hn : n % 24 = 0) (hpos : 0 < n) (hcap : n / 6 ≤ maxSentence)
    (hp : parseMessage cfg (encodeRows n rows) = ok m)
    (hrep : Reports m (encodeRows n rows) table) :
    step cfg st (C05.renderLine (C05.unfragBody
        (Spec.armor (encodeRows n rows) (8 * (encodeRows n rows).length)).1
        (Spec.armor (encodeRows n rows) (8 * (encodeRows n rows).length)).2)) true =
      (st, ok (Frag.complete { (C05.unfragBody
        (Spec.armor (encodeRows n rows) (8 * (encodeRows n rows).length)).1
        (Spec.armor (encodeRows n rows) (8 * (encodeRows n rows).length)).2).sentence with message := some m })) ∧
    ∀ e ∈ table, ∀ r ∈ rows, r.off = e.off → r.w = e.w → m.get e.key = some (e.renderVal r.v) := by
  refine ⟨?_, roundtrip m table n rows hok hrep⟩
  have arith : ∀ L, L = (n + 7) / 8 →
      0 < L ∧ (8 * L + 5) / 6 ≤ maxSentence ∧ Spec.unarmorLen ((8 * L + 5) / 6) - L = 0 := by
    unfold maxSentence Spec.unarmorLen at *; omega
  obtain ⟨h0, hsz, hpad⟩ := arith _ (encodeRows_length n rows)
  have h := C05.unfragmented_line_decodes cfg st (encodeRows n rows) (List.ne_nil_of_length_pos h0) hsz
  rwa [hpad, List.replicate_zero, List.append_nil, hp] at h

theorem rowsOK_t10 {rep mmsi dest : Nat} (h1 : rep < 2 ^ 2) (h2 : mmsi < 2 ^ 30) (h3 : dest < 2 ^ 30) :
    RowsOK 72 [⟨0, 6, 10⟩, ⟨6, 2, rep⟩, ⟨8, 30, mmsi⟩, ⟨40, 30, dest⟩] := by
  unfold RowsOK
  simp only [List.forall_mem_cons, List.pairwise_cons, List.not_mem_nil, false_imp_iff, implies_true,
    List.Pairwise.nil, and_true]
  omega

/-- Non-vacuity: a 72-bit type-10 inquiry (type, repeat, MMSI, destination) meets the side conditions. -/
example : RowsOK 72 [⟨0, 6, 10⟩, ⟨6, 2, 1⟩, ⟨8, 30, 227006760⟩, ⟨40, 30, 2655651⟩] ∧ 72 % 24 = 0 ∧ 72 / 6 ≤ maxSentence :=
  ⟨rowsOK_t10 (by decide) (by decide) (by decide), by decide, by decide⟩

/-- **A complete instance, nothing assumed:** for every repeat indicator, source and destination MMSI (each
    within its width), in every build and parser state, the UTC-inquiry line built from them is answered
    with a `Complete` sentence whose decoded message is a `UtcDateInquiry` reporting exactly those values. -/
theorem line_roundtrip_t10 (cfg : Cfg) (st : PState) (rep mmsi dest : Nat)
    (h1 : rep < 2 ^ 2) (h2 : mmsi < 2 ^ 30) (h3 : dest < 2 ^ 30) :
    ∃ m : Msg, ∃ s : Sentence,
      step cfg st (C05.renderLine (C05.unfragBody
        (Spec.armor (encodeRows 72 [⟨0, 6, 10⟩, ⟨6, 2, rep⟩, ⟨8, 30, mmsi⟩, ⟨40, 30, dest⟩]) (8 * (encodeRows 72 [⟨0, 6, 10⟩, ⟨6, 2, rep⟩, ⟨8, 30, mmsi⟩, ⟨40, 30, dest⟩]).length)).1
        (Spec.armor (encodeRows 72 [⟨0, 6, 10⟩, ⟨6, 2, rep⟩, ⟨8, 30, mmsi⟩, ⟨40, 30, dest⟩]) (8 * (encodeRows 72 [⟨0, 6, 10⟩, ⟨6, 2, rep⟩, ⟨8, 30, mmsi⟩, ⟨40, 30, dest⟩]).length)).2)) true
        = (st, ok (Frag.complete s)) ∧
      s.message = some m ∧ m.kind = .UtcDateInquiry ∧
      m.get .message_type = some (.nat 10) ∧ m.get .repeat_indicator = some (.nat rep) ∧
      m.get .mmsi = some (.nat mmsi) ∧ m.get .dest_mmsi = some (.nat dest) := by
  have hok := rowsOK_t10 h1 h2 h3
  have ht := field_encodeRows 72 _ hok ⟨0, 6, 10⟩ (List.mem_cons_self ..)
  have lr := fun m => line_roundtrip cfg st Layout.t10 72 _ m hok (by decide) (by decide) (by decide)
  generalize hbs : encodeRows 72 [⟨0, 6, 10⟩, ⟨6, 2, rep⟩, ⟨8, 30, mmsi⟩, ⟨40, 30, dest⟩] = bs at *
  have hlen : bs.length = 9 := hbs ▸ encodeRows_length 72 _
  have hp : parseMessage cfg bs = ok (Spec.decodeT10 bs) := by
    rw [parseMessage_of_len cfg bs (by omega), ht, dispatch_T10, if_pos (by omega)]
  obtain ⟨hs, hr⟩ := lr _ hp (t10 cfg bs _ ht hp)
  have rt := at_row hr
  exact ⟨Spec.decodeT10 bs, _, hs, rfl, rfl, rt 0 rfl rfl rfl rfl, rt 1 rfl rfl rfl rfl, rt 2 rfl rfl rfl rfl,
    rt 3 rfl rfl rfl rfl⟩

end AisVerif.C04
