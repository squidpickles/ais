/-
  C05 — in-order fragments reassemble to exactly the unfragmented message.

  For fragments given as the sentences the lines parse to (`in_order_reassembly`, from an *arbitrary* parser
  state), for the lines themselves (`_lines`), with no-trace lines interleaved (`_with_noise`), with a decode flag
  per line (`_flags`), and from the transmitted fields (`rendered_group_reassembles`).  The unfragmented reference:
  `same_message_as_unfragmented`, and end to end from the bytes of a message, `unfragmented_line_decodes`.
-/
import AisVerif.Props.C06
import AisVerif.Props.C07
import AisVerif.Lemmas.Armor
import AisVerif.Lemmas.Render

namespace AisVerif.C05
open Spec

/-- Feed sentences (lines already accepted by grammar and checksum) one after the other. -/
def runS (cfg : Cfg) (dec : Bool) : PState → List Sentence → List (Res Frag) × PState
  | st, [] => ([], st)
  | st, s :: ss =>
    let r := stepSentence cfg st s dec
    let rest := runS cfg dec r.1 ss
    (r.2 :: rest.1, rest.2)

/-- What the statement demands of fragments `j+1 … n` when `acc` has been accumulated so far: every
    fragment but the last yields Incomplete carrying its own fields; the last yields Complete whose
    payload is the concatenation, decoded (or not) exactly like any sentence with that payload. -/
def expected (cfg : Cfg) (dec : Bool) (acc : Bytes) : List Sentence → List (Res Frag)
  | [] => []
  | [s] => [(decodeInto cfg dec { s with data := acc ++ s.data }).map Frag.complete]
  | s :: t => ok (.incomplete s) :: expected cfg dec (acc ++ s.data) t

/-- Fragments `j+1, j+2, …` of an `n`-fragment group with sequence id `id`. -/
def Numbered (n : Nat) (id : Option Nat) : Nat → List Sentence → Prop
  | _, [] => True
  | j, s :: t => s.num_fragments = n ∧ s.fragment_number = j + 1 ∧ s.message_id = id ∧ Numbered n id (j + 1) t

def total (ss : List Sentence) : Nat := (ss.map (·.data.length)).sum

theorem runS_cons (cfg : Cfg) (dec : Bool) (st : PState) (s : Sentence) (ss : List Sentence) :
    runS cfg dec st (s :: ss) =
      ((stepSentence cfg st s dec).2 :: (runS cfg dec (stepSentence cfg st s dec).1 ss).1,
       (runS cfg dec (stepSentence cfg st s dec).1 ss).2) := rfl

theorem expected_one (cfg : Cfg) (dec : Bool) (acc : Bytes) (s : Sentence) :
    expected cfg dec acc [s] = [(decodeInto cfg dec { s with data := acc ++ s.data }).map Frag.complete] := rfl

theorem expected_cons2 (cfg : Cfg) (dec : Bool) (acc : Bytes) (s s2 : Sentence) (t : List Sentence) :
    expected cfg dec acc (s :: s2 :: t) = ok (.incomplete s) :: expected cfg dec (acc ++ s.data) (s2 :: t) := rfl

theorem total_cons (s : Sentence) (t : List Sentence) : total (s :: t) = s.data.length + total t := rfl

/-- The general statement: from a state with an open group `⟨id, j, acc⟩`, `j ≥ 1`, the remaining
    fragments `j+1 … n` give `expected … acc` and close the group. -/
theorem feed_tail (cfg : Cfg) (dec : Bool) (n : Nat) (id : Option Nat) :
    ∀ (rs : List Sentence) (j : Nat) (acc : Bytes), 1 ≤ j → j + rs.length = n → rs ≠ [] →
      Numbered n id j rs → fits (capOf cfg) (acc.length + total rs) →
      runS cfg dec ⟨id, j, acc⟩ rs = (expected cfg dec acc rs, ⟨none, 0, []⟩) := by
  intro rs
  induction rs with
  | nil => intro j acc _ _ h; exact absurd rfl h
  | cons s t ih =>
    intro j acc hj hlen _ ⟨hnf, hfn, hid, hrest⟩ hfit
    rw [total_cons] at hfit
    have hc : Continues cfg ⟨id, j, acc⟩ s := ⟨hid.symm, hfn.symm, fits_mono hfit (Nat.add_le_add_left (Nat.le_add_right _ _) _)⟩
    rw [List.length_cons] at hlen
    rw [runS_cons]
    cases t with
    | nil =>
      have : ¬ s.fragment_number < s.num_fragments ∧ s.num_fragments ≠ 1 := by rw [List.length_nil] at hlen; omega
      rw [stepSentence_final cfg dec _ s this.1 this.2 hc]
      rfl
    | cons s2 t2 =>
      have : s.fragment_number < s.num_fragments ∧ s.fragment_number ≠ 1 := by rw [List.length_cons] at hlen; omega
      rw [stepSentence_next cfg dec _ s this.1 this.2 hc, expected_cons2, hfn,
        ih (j + 1) (acc ++ s.data) (Nat.le_add_left 1 j) (by rw [Nat.add_assoc, Nat.add_comm 1]; exact hlen) (List.cons_ne_nil _ _) hrest
          (by rw [List.length_append, Nat.add_assoc]; exact hfit)]

/-- **C05.** For every parser state `st` (whatever was processed before), every `n ≥ 2`, every
    sequence id and every split into fragment payloads that together fit the buffer: presenting the
    fragments in order yields `expected` — Incomplete with the fragment's own fields for all but the
    last, Complete with the exact concatenation for the last — and leaves the parser with no open group. -/
theorem in_order_reassembly (cfg : Cfg) (dec : Bool) (st : PState) (id : Option Nat) (s1 : Sentence)
    (rest : List Sentence) (hne : rest ≠ []) (hnum : Numbered (rest.length + 1) id 0 (s1 :: rest))
    (hfit : fits (capOf cfg) (total (s1 :: rest))) :
    runS cfg dec st (s1 :: rest) = (expected cfg dec [] (s1 :: rest), ⟨none, 0, []⟩) := by
  obtain ⟨s2, t2, rfl⟩ := List.exists_cons_of_ne_nil hne
  obtain ⟨hnf, hfn, hid, hrest⟩ := hnum
  rw [total_cons] at hfit
  rw [runS_cons, expected_cons2,
    stepSentence_first cfg dec st s1 (by rw [hnf, hfn, List.length_cons]; omega) hfn (fits_mono hfit (Nat.le_add_right _ _)), hid,
    feed_tail cfg dec ((s2 :: t2).length + 1) id (s2 :: t2) 1 s1.data (Nat.le_refl 1) (Nat.add_comm _ _) (List.cons_ne_nil _ _) hrest hfit]
  rfl

/-! ### The decoded message equals the one obtained by sending the payload unfragmented -/

/-- The message a sentence carries after decoding depends on its payload, its fill count and the message it carried before
    (which decoding replaces, or with decoding off passes on), on nothing else. -/
theorem decodeInto_depends (cfg : Cfg) (dec : Bool) (a b : Sentence)
    (hd : a.data = b.data) (hf : a.fill_bit_count = b.fill_bit_count) (hm : a.message = b.message) :
    (decodeInto cfg dec a).map (·.message) = (decodeInto cfg dec b).map (·.message) := by
  unfold decodeInto
  cases dec with
  | false => simp only [Bool.false_eq_true, if_false, Res.map, hm]
  | true =>
    simp only [if_true, hd, hf]
    cases unarmor cfg b.data b.fill_bit_count with
    | ok u => simp only [Res.ok_bind]; cases parseMessage cfg u <;> rfl
    | err e => rfl
    | panic p => rfl

/-- The unfragmented sentence `u` (one fragment of one) with the concatenated payload and the last
    fragment's fill count decodes to the same message — or the same decode error — as the last
    fragment `s` of the group. -/
theorem same_message_as_unfragmented (cfg : Cfg) (dec : Bool) (st : PState) (s u : Sentence) (concat : Bytes)
    (hu1 : u.num_fragments = 1) (huk : u.fragment_number = 1) (hud : u.data = concat)
    (huf : u.fill_bit_count = s.fill_bit_count) (hum : u.message = s.message) :
    (stepSentence cfg st u dec).2.map (fun f => (C07.Frag.sentence f).message) =
      ((decodeInto cfg dec { s with data := concat }).map Frag.complete).map (fun f => (C07.Frag.sentence f).message) := by
  have hmm : ∀ r : Res Sentence,
      (r.map Frag.complete).map (fun f => (C07.Frag.sentence f).message) = r.map (·.message) := by
    intro r; cases r <;> rfl
  rw [stepSentence_unfrag cfg dec st u (by omega) hu1, hmm, hmm]
  exact decodeInto_depends cfg dec u { s with data := concat } hud huf hum

theorem conversions (s : Sentence) :
    Frag.toOption (.complete s) = some s ∧ Frag.toOption (.incomplete s) = none ∧
    Frag.toResult (.complete s) = ok s ∧ Frag.toResult (.incomplete s) = err (.text .incomplete) :=
  ⟨rfl, rfl, rfl, rfl⟩

/-- `expected` without the recursion: Incomplete for every fragment but the last, then the whole concatenation. -/
theorem expected_eq (cfg : Cfg) (dec : Bool) : ∀ (ss : List Sentence) (acc : Bytes) (hne : ss ≠ []),
    expected cfg dec acc ss = ss.dropLast.map (fun s => ok (.incomplete s)) ++
      [(decodeInto cfg dec { ss.getLast hne with data := acc ++ (ss.map (·.data)).flatten }).map Frag.complete] := by
  intro ss
  induction ss with
  | nil => intro acc h; exact absurd rfl h
  | cons s t ih =>
    intro acc _
    cases t with
    | nil => simp [expected_one]
    | cons s2 t2 =>
      rw [expected_cons2, ih (acc ++ s.data) (List.cons_ne_nil _ _), List.append_assoc]
      rfl

theorem expected_last (cfg : Cfg) (dec : Bool) : ∀ (ss : List Sentence) (acc : Bytes) (hne : ss ≠ []),
    (expected cfg dec acc ss).getLast? =
      some ((decodeInto cfg dec { ss.getLast hne with data := acc ++ (ss.map (·.data)).flatten }).map Frag.complete) := by
  intro ss acc hne
  rw [expected_eq cfg dec ss acc hne, List.getLast?_concat]

/-! ### The same, for the lines themselves -/

/-- Lines that the sentence layer accepts (well-formed, checksum matching — `C06.classify`) are
    processed exactly as their sentences. -/
theorem run_eq_runS (cfg : Cfg) (dec : Bool) :
    ∀ (lines : List Bytes) (ss : List Sentence) (st : PState),
      lines.map (C06.classify cfg) = ss.map some → run cfg dec st lines = runS cfg dec st ss := by
  intro lines
  induction lines with
  | nil =>
    intro ss st h
    cases ss with
    | nil => rfl
    | cons a b => cases h
  | cons l ls ih =>
    intro ss st h
    cases ss with
    | nil => cases h
    | cons s ss' =>
      obtain ⟨h1, h2⟩ := List.cons.inj h
      rw [C17.run_cons, runS_cons, C06.step_of_classify h1, ih ss' _ h2]

/-- **C05 on lines.** Any `n ≥ 2` accepted lines that number themselves 1…n of n with one sequence id,
    fed in order to a parser in *any* state, give `expected`: Incomplete (own fields) … Complete
    (exact concatenation, decoded like the unfragmented payload); the parser ends with no open group. -/
theorem in_order_reassembly_lines (cfg : Cfg) (dec : Bool) (st : PState) (id : Option Nat)
    (l1 : Bytes) (ls : List Bytes) (s1 : Sentence) (rest : List Sentence)
    (hcl : (l1 :: ls).map (C06.classify cfg) = (s1 :: rest).map some)
    (hne : rest ≠ []) (hnum : Numbered (rest.length + 1) id 0 (s1 :: rest))
    (hfit : fits (capOf cfg) (total (s1 :: rest))) :
    run cfg dec st (l1 :: ls) = (expected cfg dec [] (s1 :: rest), ⟨none, 0, []⟩) := by
  rw [run_eq_runS cfg dec _ _ st hcl]
  exact in_order_reassembly cfg dec st id s1 rest hne hnum hfit

/-- **C05 with interleaved lines.** The same group, with any number of lines in between that are rejected
    (form, checksum, sequencing) or are unfragmented sentences — each no-trace in the state it arrives in
    (`C17.Tagged`): the results produced for the group's own lines are still `expected`, and the parser
    ends with no open group. -/
theorem in_order_reassembly_with_noise (cfg : Cfg) (dec : Bool) (st : PState) (id : Option Nat)
    (h : List (Bytes × Bool)) (htag : C17.Tagged cfg dec st h)
    (l1 : Bytes) (ls : List Bytes) (hk : C17.kept h = l1 :: ls)
    (s1 : Sentence) (rest : List Sentence)
    (hcl : (l1 :: ls).map (C06.classify cfg) = (s1 :: rest).map some)
    (hne : rest ≠ []) (hnum : Numbered (rest.length + 1) id 0 (s1 :: rest))
    (hfit : fits (capOf cfg) (total (s1 :: rest))) :
    C17.keptResults h (run cfg dec st (h.map (·.1))).1 = expected cfg dec [] (s1 :: rest) ∧
    (run cfg dec st (h.map (·.1))).2 = ⟨none, 0, []⟩ := by
  obtain ⟨a, b⟩ := C17.remove_all_noTrace cfg dec h st htag
  have hr := in_order_reassembly_lines cfg dec st id l1 ls s1 rest hcl hne hnum hfit
  rw [a, b, hk, hr]
  exact ⟨rfl, rfl⟩

/-! ### From bytes to a line and back: the unfragmented reference, end to end -/

/-- The body `AIVDM,1,1,,A,<payload>,<fill>`. -/
def unfragBody (payload : Bytes) (fill : Nat) : Body :=
  { talker := asciiStr "AI", report := asciiStr "VDM", nf := [0x31], fn := [0x31], id := [], ch := [0x41],
    payload := payload, fill := [UInt8.ofNat (48 + fill)] }

/-- `!<body>*<checksum>` -/
def renderLine (b : Body) : Bytes := [] ++ [0x21] ++ b.render ++ [0x2A] ++ hex2 (xorAll b.render).toNat

theorem parse_renderLine (cfg : Cfg) (b : Body) (hwf : b.WF cfg) (hs : (0x2A : UInt8) ∉ b.render) :
    parseNmeaSentence cfg (renderLine b) = ok (b.render, b.sentence, (xorAll b.render).toNat) :=
  parse_renderLineWith cfg b hwf hs ⟨_, UInt8.toNat_lt _⟩

theorem armored_mem_no_sep (data : Bytes) (h : AllArmored data) :
    (0x2A : UInt8) ∉ data ∧ (0x2C : UInt8) ∉ data :=
  ⟨fun hm => absurd (h _ hm) (by decide), fun hm => absurd (h _ hm) (by decide)⟩

theorem digits1 (d : UInt8) (h : isDigit d = true) : AllDigits [d] := by
  intro x hx; simp only [List.mem_singleton] at hx; rw [hx]; exact h

theorem fill_digit (f : Nat) (h : f ≤ 5) :
    AllDigits [UInt8.ofNat (48 + f)] ∧ decVal [UInt8.ofNat (48 + f)] = f := by
  have : ∀ f : Fin 6, isDigit (UInt8.ofNat (48 + f.val)) = true ∧ decVal [UInt8.ofNat (48 + f.val)] = f.val := by
    decide +kernel
  exact ⟨digits1 _ (this ⟨f, Nat.lt_succ_of_le h⟩).1, (this ⟨f, Nat.lt_succ_of_le h⟩).2⟩

theorem one_digits : ([0x31] : Bytes) ≠ [] ∧ AllDigits [0x31] ∧ decVal [0x31] ≤ 255 :=
  ⟨by decide, digits1 _ (by decide), by decide⟩

theorem unfragBody_wf (cfg : Cfg) (payload : Bytes) (fill : Nat) (hall : AllArmored payload) (hne : payload ≠ [])
    (hf : fill ≤ 5) (hcap : payload.length ≤ maxSentence) : (unfragBody payload fill).WF cfg :=
  have hfd := fill_digit fill hf
  { talker := rfl, report := rfl, nf := one_digits, fn := one_digits, id := Or.inl rfl,
    ch := by simp [unfragBody],
    payload := ⟨(armored_mem_no_sep _ hall).2, hne⟩,
    fill := ⟨List.cons_ne_nil _ _, hfd.1, Nat.lt_succ_of_le (hfd.2.symm ▸ hf)⟩,
    cap := fun _ => hcap }

/-- **End to end, for every non-empty byte string `bs`** whose armoring fits a sentence (`hsz`: at most 288 bytes;
    a message as it is unarmored), every build and every parser state: armoring `bs`, rendering `!AIVDM,1,1,,A,<payload>,<fill>*<checksum>` and feeding
    that line with decoding on gives exactly what `parseMessage` gives for `bs` (followed by the one zero
    byte unarmoring adds when `6·chars` crosses a byte boundary) — the same value or the same error — in a
    `Complete` sentence that carries the transmitted fields, and the parser state is untouched. -/
theorem unfragmented_line_decodes (cfg : Cfg) (st : PState) (bs : Bytes) (hne : bs ≠ [])
    (hsz : (8 * bs.length + 5) / 6 ≤ maxSentence) :
    step cfg st (renderLine (unfragBody (Spec.armor bs (8 * bs.length)).1 (Spec.armor bs (8 * bs.length)).2)) true =
      (st, (parseMessage cfg (bs ++ List.replicate (Spec.unarmorLen ((8 * bs.length + 5) / 6) - bs.length) 0)).bind
        fun m => ok (Frag.complete
          { (unfragBody (Spec.armor bs (8 * bs.length)).1 (Spec.armor bs (8 * bs.length)).2).sentence with message := some m })) := by
  have hlen := armor_length bs (8 * bs.length)
  have hfill := armor_fill_le bs (8 * bs.length)
  have hle (n : Nat) : Spec.unarmorLen n ≤ n := Nat.le_of_lt_succ (Nat.div_lt_of_lt_mul (by omega))
  have hun : unarmor cfg (unfragBody (Spec.armor bs (8 * bs.length)).1 (Spec.armor bs (8 * bs.length)).2).sentence.data
      (unfragBody (Spec.armor bs (8 * bs.length)).1 (Spec.armor bs (8 * bs.length)).2).sentence.fill_bit_count = _ :=
    (fill_digit _ hfill).2.symm ▸ unarmor_armor_padded cfg bs
      (not_tooLarge_small cfg _ (Nat.le_trans (hle _) hsz))
  have hall := armor_allArmored bs (8 * bs.length)
  have hwf := unfragBody_wf cfg _ _ hall
    (List.ne_nil_of_length_pos (hlen ▸ Nat.div_pos (by have := List.length_pos_iff.mpr hne; omega) (by decide))) hfill (hlen ▸ hsz)
  have hs := render_no_star hwf (by simp [asciiStr] : (0x2A : UInt8) ∉ asciiStr "AI")
    (by simp [asciiStr] : (0x2A : UInt8) ∉ asciiStr "VDM") (by simp : (0x2A : UInt8) ∉ [0x41]) (armored_mem_no_sep _ hall).1
  rw [step_of_parse cfg st true (parse_renderLine cfg _ hwf hs) rfl,
    stepSentence_unfrag cfg true st _ (Nat.lt_irrefl _ : ¬ decVal [0x31] < decVal [0x31]) (rfl : decVal [0x31] = 1)]
  unfold decodeInto
  rw [if_pos rfl, hun, Res.ok_bind]
  cases parseMessage cfg (bs ++ List.replicate (Spec.unarmorLen ((8 * bs.length + 5) / 6) - bs.length) 0) <;> rfl

/-- Any well-formed body, rendered as `!<body>*<its checksum>`, is accepted at the sentence level and
    reported as that body (grammar round trip + checksum). -/
theorem classify_renderLine (cfg : Cfg) (b : Body) (hwf : b.WF cfg) (hs : (0x2A : UInt8) ∉ b.render) :
    C06.classify cfg (renderLine b) = some b.sentence := by
  unfold C06.classify
  rw [parse_renderLine cfg b hwf hs]
  simp

/-- **C05 from the transmitted fields.** Any `n ≥ 2` well-formed bodies that number themselves 1…n of n
    with one sequence id, each rendered as a line with its own correct checksum and fed in order to a
    parser in any state: Incomplete (own fields) … Complete (exact concatenation, decoded like the
    unfragmented payload); the parser ends idle. -/
theorem rendered_group_reassembles (cfg : Cfg) (dec : Bool) (st : PState) (id : Option Nat)
    (b1 : Body) (rest : List Body)
    (hwf : ∀ b ∈ b1 :: rest, b.WF cfg ∧ (0x2A : UInt8) ∉ b.render)
    (hne : rest ≠ [])
    (hnum : Numbered (rest.length + 1) id 0 ((b1 :: rest).map Body.sentence))
    (hfit : fits (capOf cfg) (total ((b1 :: rest).map Body.sentence))) :
    run cfg dec st ((b1 :: rest).map renderLine) =
      (expected cfg dec [] ((b1 :: rest).map Body.sentence), ⟨none, 0, []⟩) := by
  have hcl : ((b1 :: rest).map renderLine).map (C06.classify cfg) = ((b1 :: rest).map Body.sentence).map some := by
    rw [List.map_map, List.map_map]
    exact List.map_congr_left fun b hb => classify_renderLine cfg b (hwf b hb).1 (hwf b hb).2
  rw [← List.length_map (f := Body.sentence)] at hnum
  exact in_order_reassembly_lines cfg dec st id (renderLine b1) (rest.map renderLine) b1.sentence (rest.map Body.sentence)
    hcl (mt List.map_eq_nil_iff.mp hne) hnum hfit

def exB (k : UInt8) (p : Bytes) : Body :=
  { talker := asciiStr "AI", report := asciiStr "VDM", nf := [0x32], fn := [k], id := [0x33], ch := [0x41],
    payload := p, fill := [0x30] }

/-- Non-vacuity: the two-fragment group `!AIVDM,2,1,3,A,15,0*..`, `!AIVDM,2,2,3,A,M0,0*..` meets every hypothesis
    of `rendered_group_reassembles`. -/
example : (∀ b ∈ [exB 0x31 [0x31, 0x35], exB 0x32 [0x4D, 0x30]], b.WF .std ∧ (0x2A : UInt8) ∉ b.render) ∧
    Numbered 2 (some 3) 0 ([exB 0x31 [0x31, 0x35], exB 0x32 [0x4D, 0x30]].map Body.sentence) ∧
    fits (capOf .std) (total ([exB 0x31 [0x31, 0x35], exB 0x32 [0x4D, 0x30]].map Body.sentence)) := by
  refine ⟨?_, ⟨rfl, rfl, rfl, rfl, rfl, rfl, trivial⟩, trivial⟩
  intro b hb
  simp only [List.mem_cons, List.mem_nil_iff, or_false] at hb
  rcases hb with rfl | rfl <;>
    exact ⟨{ talker := rfl, report := rfl, nf := ⟨by decide, digits1 _ (by decide), by decide⟩,
             fn := ⟨by decide, digits1 _ (by decide), by decide⟩, id := Or.inr ⟨digits1 _ (by decide), by decide⟩,
             ch := by simp [exB], payload := ⟨by simp [exB], by decide⟩, fill := ⟨by decide, digits1 _ (by decide), by decide⟩,
             cap := nofun }, by decide +kernel⟩

/-! ### Every fragment line with its own decode flag -/

/-- What is demanded of a fragment other than the last does not mention the flag at all. -/
theorem expected_nonlast (cfg : Cfg) (dec : Bool) : ∀ (ss : List Sentence) (acc : Bytes) (i : Nat) (hi : i + 1 < ss.length),
    (expected cfg dec acc ss)[i]? = some (ok (.incomplete (ss[i]'(by omega)))) := by
  intro ss acc i hi
  have hi' : i < ss.length - 1 := Nat.lt_sub_of_add_lt hi
  rw [expected_eq cfg dec ss acc (List.ne_nil_of_length_pos (Nat.zero_lt_of_lt hi)),
    List.getElem?_append_left (by rw [List.length_map, List.length_dropLast]; exact hi'),
    List.getElem?_map, List.getElem?_dropLast, if_pos hi', List.getElem?_eq_getElem (Nat.lt_of_succ_lt hi)]
  rfl

/-- **C05 with per-line flags.** The group's lines may each be sent with their own decode flag: the line at any
    position gets what `expected` demands at that position *for that line's own flag* - so every fragment but
    the last yields Incomplete with its own fields whatever the flags are (`expected_nonlast`), and the last
    yields Complete with the exact concatenation, decoded iff decoding was requested **on that last call** - and
    the parser ends with no open group. -/
theorem in_order_reassembly_flags (cfg : Cfg) (st : PState) (id : Option Nat)
    (h : List (Bytes × Bool)) (l1 : Bytes) (ls : List Bytes) (hl : h.map (·.1) = l1 :: ls)
    (s1 : Sentence) (rest : List Sentence)
    (hcl : (l1 :: ls).map (C06.classify cfg) = (s1 :: rest).map some)
    (hne : rest ≠ []) (hnum : Numbered (rest.length + 1) id 0 (s1 :: rest))
    (hfit : fits (capOf cfg) (total (s1 :: rest))) :
    (∀ (a b : List (Bytes × Bool)) (l : Bytes) (d : Bool), h = a ++ (l, d) :: b →
      (runD cfg st h).1[a.length]? = (expected cfg d [] (s1 :: rest))[a.length]?) ∧
    (runD cfg st h).2 = ⟨none, 0, []⟩ := by
  constructor
  · intro a b l d hh
    subst hh
    rw [runD_result_eq_run cfg st a b l d, hl, in_order_reassembly_lines cfg d st id l1 ls s1 rest hcl hne hnum hfit]
  · rw [runD_state cfg false st h, hl, in_order_reassembly_lines cfg false st id l1 ls s1 rest hcl hne hnum hfit]

end AisVerif.C05
