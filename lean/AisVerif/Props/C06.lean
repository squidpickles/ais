/-
  C06 — only a complete in-order group ever produces a multi-fragment message.

  `Spec.gstep` (Spec/Reassembly.lean) is the statement made executable: a sentence that declares
  itself fragment k ≥ 2 is accepted only if an open, undelivered group with the same sequence id has
  fragment k-1 as its last accepted fragment (and then it is, unless the reassembled payload would not fit the
  no-alloc buffer); delivery closes the group.  Here: the parser refines
  that automaton on every history of validly numbered sentences, from every state that represents one of its own
  (`Rel`; the fresh parser does).
-/
import AisVerif.Props.C17
import AisVerif.Lemmas.Machine

namespace AisVerif.C06
open Spec

/-- A line as the reassembly layer sees it: the sentence, when the line is well-formed and its
    checksum matches (C02, C08); nothing otherwise. -/
def classify (cfg : Cfg) (line : Bytes) : Option Sentence :=
  match parseNmeaSentence cfg line with
  | ok (raw, s, cks) => if cks = (xorAll raw).toNat then some s else none
  | _ => none

def ValidNum (s : Sentence) : Prop := 1 ≤ s.fragment_number ∧ s.fragment_number ≤ s.num_fragments

/-- The abstract run: outcomes of the automaton for the classified lines (`reject` for a line that
    is not a sentence). -/
def grun (cfg : Cfg) : Option Group → List Bytes → List Outcome × Option Group
  | g, [] => ([], g)
  | g, l :: ls =>
    match classify cfg l with
    | some s =>
      let r := gstep (capOf cfg) g s.num_fragments s.fragment_number s.message_id s.data
      let rest := grun cfg r.1 ls
      (r.2 :: rest.1, rest.2)
    | none =>
      let rest := grun cfg g ls
      (.reject :: rest.1, rest.2)

/-- How the outcome for one line shows in the parser's result for that line. -/
def LineMatches (cfg : Cfg) (dec : Bool) (line : Bytes) (o : Outcome) (r : Res Frag) : Prop :=
  match classify cfg line, o with
  | some s, .incomplete => r = ok (.incomplete s)
  | some s, .complete d => r = (decodeInto cfg dec { s with data := d }).map Frag.complete
  | _, .reject => ∃ e, r = err e
  | none, _ => ∃ e, r = err e

def Pointwise {α β : Type} (P : α → β → Prop) : List α → List β → Prop
  | [], [] => True
  | a :: as, b :: bs => P a b ∧ Pointwise P as bs
  | _, _ => False

theorem classify_some {cfg : Cfg} {line : Bytes} {s : Sentence} (h : classify cfg line = some s) :
    ∃ raw cks, parseNmeaSentence cfg line = ok (raw, s, cks) ∧ cks = (xorAll raw).toNat := by
  unfold classify at h
  split at h
  · next raw s' cks _ => split at h <;> cases h; exact ⟨raw, cks, ‹_›, ‹_›⟩
  · cases h

theorem step_of_classify {cfg : Cfg} {line : Bytes} {s : Sentence} (h : classify cfg line = some s)
    (st : PState) (dec : Bool) : step cfg st line dec = stepSentence cfg st s dec := by
  obtain ⟨raw, cks, hp, hc⟩ := classify_some h
  exact step_of_parse cfg st dec hp hc

theorem classify_none_step {cfg : Cfg} {line : Bytes} (h : classify cfg line = none) (st : PState) (dec : Bool)
    (hnp : ∀ p, parseNmeaSentence cfg line ≠ panic p) :
    (step cfg st line dec).1 = st ∧ ∃ e, (step cfg st line dec).2 = err e := by
  refine step_elim cfg st line dec (fun e _ => ⟨rfl, e, rfl⟩) (fun p hp => absurd hp (hnp p))
    (fun _ _ _ _ _ => ⟨rfl, _, rfl⟩) (fun raw s hp => ?_)
  simp [classify, hp] at h

/-- **The parser refines the group automaton** on every history of validly numbered sentences
    (mixed with arbitrary non-sentences), from every state that represents an abstract one — the
    fresh parser, an abandoned group, a just-delivered group. -/
theorem refines_group_automaton (cfg : Cfg) (dec : Bool)
    (hnp : ∀ line p, parseNmeaSentence cfg line ≠ panic p) :
    ∀ (lines : List Bytes) (st : PState) (g : Option Group), Rel st g →
      (∀ l ∈ lines, ∀ s, classify cfg l = some s → ValidNum s) →
      Rel (run cfg dec st lines).2 (grun cfg g lines).2 ∧
      Pointwise (fun lo r => LineMatches cfg dec lo.1 lo.2 r) (lines.zip (grun cfg g lines).1) (run cfg dec st lines).1 := by
  intro lines
  induction lines with
  | nil => intro st g hR _; exact ⟨hR, trivial⟩
  | cons l ls ih =>
    intro st g hR hv
    have hv' := fun l' hl' => hv l' (List.mem_cons_of_mem _ hl')
    rw [C17.run_cons]
    simp only [grun]
    cases hc : classify cfg l with
    | none =>
      obtain ⟨hst, e, he⟩ := classify_none_step hc st dec (hnp l)
      rw [hst, he]
      refine ⟨(ih st g hR hv').1, ?_, (ih st g hR hv').2⟩
      simp only [LineMatches, hc]
      exact ⟨e, rfl⟩
    | some s =>
      obtain ⟨raw, cks, hp, -⟩ := classify_some hc
      obtain ⟨hrel, hm⟩ := stepSentence_refines cfg dec st g s hR (hv l List.mem_cons_self s hc) (parsed_fits hp)
      rw [step_of_classify hc]
      refine ⟨(ih _ _ hrel hv').1, ?_, (ih _ _ hrel hv').2⟩
      revert hm
      simp only [LineMatches, hc, Matches]
      cases (gstep (capOf cfg) g s.num_fragments s.fragment_number s.message_id s.data).2 with
      | incomplete => exact id
      | complete d => exact id
      | reject => exact fun h => ⟨_, h.2.choose_spec⟩

/-! ### What the automaton guarantees (the statement's "consequently") -/

/-- A fragment k ≥ 2 is accepted only if it directly continues the open group: same sequence id,
    last accepted fragment k-1, group not yet delivered. -/
theorem continuation_only_if_open (cap : Option Nat) (g : Option Group) (nf fn : Nat) (id : Option Nat)
    (data : List UInt8) (hk : 2 ≤ fn) (hnf : nf ≠ 1)
    (h : (gstep cap g nf fn id data).2 ≠ .reject) :
    ∃ o, g = some o ∧ o.id = id ∧ o.last + 1 = fn := by
  rcases gstep_cases cap g nf fn id data with ⟨h1, -⟩ | ⟨h1, -⟩ | ⟨o, ho, hc, -⟩ | ⟨-, -, hr⟩
  · omega
  · exact absurd h1 hnf
  · exact ⟨o, ho, hc.1, hc.2.1⟩
  · exact absurd (by rw [hr]) h

/-- Every delivered multi-fragment payload is the in-order concatenation of the open group's
    fragments followed by this last one, and delivery closes the group (nothing can continue it). -/
theorem delivered_is_concat (cap : Option Nat) (g : Option Group) (nf fn : Nat) (id : Option Nat)
    (data d : List UInt8) (hnf : nf ≠ 1) (h : (gstep cap g nf fn id data).2 = .complete d) :
    ∃ o, g = some o ∧ o.id = id ∧ o.last + 1 = fn ∧ d = (o.parts ++ [data]).flatten ∧
      (gstep cap g nf fn id data).1 = none := by
  rcases gstep_cases cap g nf fn id data with
    ⟨-, -, hr⟩ | ⟨h1, -, hr⟩ | ⟨o, ho, hc, ⟨-, -, hr⟩ | ⟨-, -, hr⟩⟩ | ⟨-, -, hr⟩ <;> rw [hr] at h
  · cases h
  · exact absurd h1 hnf
  · cases h
  · cases h; exact ⟨o, ho, hc.1, hc.2.1, rfl, congrArg Prod.fst hr⟩
  · cases h

/-- The open group holds as many fragments as the number of the last one accepted, at least one (with
    `continuation_only_if_open`: the fragments 1..last, each once, in order). -/
def GInv (g : Option Group) : Prop := ∀ o, g = some o → o.parts.length = o.last ∧ 1 ≤ o.last

theorem gstep_inv (cap : Option Nat) (g : Option Group) (nf fn : Nat) (id : Option Nat) (data : List UInt8)
    (hg : GInv g) : GInv (gstep cap g nf fn id data).1 := by
  rcases gstep_cases cap g nf fn id data with
    ⟨-, -, hr⟩ | ⟨-, -, hr⟩ | ⟨o, ho, ⟨-, hl, -⟩, ⟨-, -, hr⟩ | ⟨-, -, hr⟩⟩ | ⟨-, -, hr⟩ <;> rw [hr]
  · intro o' ho'; cases ho'; exact ⟨rfl, Nat.le_refl 1⟩
  · exact hg
  · intro o' ho'; cases ho'
    exact ⟨by rw [List.length_append, (hg o ho).1]; exact hl, hl ▸ Nat.le_add_left 1 _⟩
  · intro o' ho'; cases ho'
  · exact hg

/-- Non-vacuity: the fresh parser represents "no open group". -/
example : Rel PState.init none := rfl

end AisVerif.C06
