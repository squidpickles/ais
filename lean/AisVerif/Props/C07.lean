/-
  C07 — the sentence reports exactly the transmitted NMEA fields and raw payload.
-/
import AisVerif.Lemmas.Outer
import AisVerif.Lemmas.Flags

namespace AisVerif.C07

def knownTalkers : List String := ["AB", "AD", "AI", "AN", "AR", "AS", "AT", "AX", "BS", "SA"]

theorem talker_known : ∀ t ∈ knownTalkers, talkerId (asciiStr t) = t := by decide +kernel

theorem talker_unknown (b : Bytes) (h : ∀ t ∈ knownTalkers, b ≠ asciiStr t) : talkerId b = "Unknown" := by
  simp only [knownTalkers, List.forall_mem_cons, ne_eq] at h
  simp only [talkerId, h, if_false]

theorem report_type_spec (b : Bytes) :
    reportType b = if b = asciiStr "VDM" then "VDM" else if b = asciiStr "VDO" then "VDO" else "Unknown" := rfl

/-- **Every accepted line reports what was transmitted.**  For any line accepted at the sentence
    level there is a well-formed body between delimiter and '*', and the sentence's fields are
    exactly that body's: talker and report type through the tables above, the three numbers as
    decimal values (leading zeros allowed), the sequence id absent iff its field is empty, the
    channel's first byte, the raw payload bytes unmodified, the fill count. -/
theorem sentence_reports_body (cfg : Cfg) (line raw : Bytes) (s : Sentence) (cks : Nat)
    (h : parseNmeaSentence cfg line = ok (raw, s, cks)) :
    ∃ b : Body, b.WF cfg ∧ raw = b.render ∧ s = b.sentence :=
  parsed_body h

/-- Conversely every well-formed transmitted body is reported back exactly (the "for every
    assignment of fields" direction): see `parseNmeaSentence_render`. -/
theorem rendered_is_reported (cfg : Cfg) (pre : Bytes) (d : UInt8) (b : Body) (rest : Bytes)
    (hp : PreOK pre) (hd : d = 0x21 ∨ d = 0x24) (hb : b.WF cfg) (hs : (0x2A : UInt8) ∉ b.render)
    (hh : rest.takeWhile isHexDigit ≠ []) (hv : hexVal ((rest.takeWhile isHexDigit).take 8) ≤ 0xFF) :
    ∃ cks, parseNmeaSentence cfg (pre ++ [d] ++ b.render ++ [0x2A] ++ rest) = ok (b.render, b.sentence, cks) :=
  ⟨_, parseNmeaSentence_render cfg pre d b rest hp hd hb hs hh hv⟩

theorem body_fields (b : Body) :
    b.sentence.num_fragments = decVal b.nf ∧ b.sentence.fragment_number = decVal b.fn ∧
    b.sentence.message_id = (if b.id = [] then none else some (decVal b.id)) ∧
    b.sentence.channel = b.ch.head? ∧ b.sentence.data = b.payload ∧
    b.sentence.fill_bit_count = decVal b.fill ∧ b.sentence.message = none :=
  ⟨rfl, rfl, rfl, rfl, rfl, rfl, rfl⟩

theorem decVal_leading_zero (ds : Bytes) : decVal (0x30 :: ds) = decVal ds := by
  unfold decVal; simp

/-! ### The decode flag changes nothing but the decoded message -/

def Frag.sentence : Frag → Sentence
  | .complete s => s
  | .incomplete s => s

def Frag.isComplete : Frag → Bool
  | .complete _ => true
  | .incomplete _ => false

theorem decodeInto_false (cfg : Cfg) (s : Sentence) : decodeInto cfg false s = ok s := rfl

theorem decodeInto_true_fields (cfg : Cfg) (s s' : Sentence) (h : decodeInto cfg true s = ok s') :
    s' = { s with message := s'.message } := by
  simp only [decodeInto, if_true, bind_eq_ok] at h
  obtain ⟨_, _, _, _, h⟩ := h
  cases h; rfl

/-- With decoding off payload-level errors are not raised: the result of `parse(line, false)` is `ok`
    whenever `parse(line, true)` is, with identical sentence fields (the message apart), identical kind
    (Complete/Incomplete) and identical next state. -/
theorem decode_flag (cfg : Cfg) (st : PState) (line : Bytes) (f2 : Frag)
    (h : (step cfg st line true).2 = ok f2) :
    (step cfg st line false).1 = (step cfg st line true).1 ∧
    ∃ f1, (step cfg st line false).2 = ok f1 ∧ Frag.isComplete f1 = Frag.isComplete f2 ∧
      Frag.sentence f2 = { Frag.sentence f1 with message := (Frag.sentence f2).message } := by
  obtain ⟨raw, s, hp, hs⟩ := step_ok h
  rw [hs] at h ⊢
  rw [step_of_parse cfg st false hp rfl]
  revert h
  obtain ⟨st', h | ⟨m, h⟩ | ⟨d, h⟩⟩ := stepSentence_result cfg st s <;> rw [h true, h false]
  · rintro ⟨⟩; exact ⟨rfl, _, rfl, rfl, rfl⟩
  · nofun
  · intro h2
    obtain ⟨s', hd, rfl⟩ := Res.map_eq_ok.mp h2
    exact ⟨rfl, _, rfl, rfl, decodeInto_true_fields cfg _ _ hd⟩

theorem decode_off_no_message (cfg : Cfg) (st : PState) (line : Bytes) (f : Frag)
    (h : (step cfg st line false).2 = ok f) : (Frag.sentence f).message = none := by
  obtain ⟨raw, s, hp, hs⟩ := step_ok h
  obtain ⟨b, -, -, rfl⟩ := parsed_body hp
  rw [hs] at h
  revert h
  obtain ⟨st', h | ⟨m, h⟩ | ⟨d, h⟩⟩ := stepSentence_result cfg st b.sentence <;> rw [h false] <;> rintro ⟨⟩ <;> rfl

/-! ### The decode flag is an argument of each call -/

/-- **A line's result depends on the other lines through their bytes only, and on its own flag**: two histories
    with the same lines before position `i` (whatever the flags of those lines, and whatever follows) give the
    line at `i`, sent with the same flag, the same result. -/
theorem result_depends_on_own_flag_only (cfg : Cfg) (st : PState) (a a' b b' : List (Bytes × Bool)) (l : Bytes) (d : Bool)
    (ha : a.map (·.1) = a'.map (·.1)) :
    (runD cfg st (a ++ (l, d) :: b)).1[a.length]? = (runD cfg st (a' ++ (l, d) :: b')).1[a'.length]? := by
  rw [runD_result_at cfg false st a b l d, runD_result_at cfg false st a' b' l d, ha]

/-- With decoding off on a line, the line's sentence carries no message - whatever flags the earlier lines
    (the earlier fragments of its group among them) were sent with. -/
theorem decode_off_no_message_flags (cfg : Cfg) (st : PState) (a b : List (Bytes × Bool)) (l : Bytes) (f : Frag)
    (h : (runD cfg st (a ++ (l, false) :: b)).1[a.length]? = some (ok f)) : (Frag.sentence f).message = none := by
  rw [runD_result_at cfg false st a b l false] at h
  exact decode_off_no_message cfg _ l f (Option.some.inj h)

end AisVerif.C07
