/-
  C08 — exactly the well-formed AIVDM/AIVDO sentence shapes are accepted.
-/
import AisVerif.Lemmas.Outer
import AisVerif.Lemmas.Step

namespace AisVerif.C08

/-- The shape of the statement: an optional tag block (backslash … backslash), '!' or '$', five
    address bytes, comma-separated decimal fragment count and number (each ≤ 255), an optional
    decimal sequence id (≤ 255), a channel field (possibly empty), a non-empty payload field, a
    decimal fill count below 6, '*', and a non-empty run of hex digits whose first (at most) eight
    have a value ≤ 0xFF; bytes after that are unconstrained.  Because the '*' that ends the sentence
    is the *first* one after the delimiter, no field contains a '*'.  (`Body.WF` spells out the
    field conditions; in the no-alloc build the payload additionally has at most 384 bytes.) -/
def Shape (cfg : Cfg) (line : Bytes) : Prop :=
  ∃ (pre : Bytes) (d : UInt8) (b : Body) (rest : Bytes),
    line = pre ++ [d] ++ b.render ++ [0x2A] ++ rest ∧ PreOK pre ∧ (d = 0x21 ∨ d = 0x24) ∧ b.WF cfg ∧
    (0x2A : UInt8) ∉ b.render ∧ rest.takeWhile isHexDigit ≠ [] ∧
    hexVal ((rest.takeWhile isHexDigit).take 8) ≤ 0xFF

/-- **Accepted at the sentence level ⇔ shaped as the statement says.** -/
theorem accepted_iff_shape (cfg : Cfg) (line : Bytes) :
    (∃ raw s cks, parseNmeaSentence cfg line = ok (raw, s, cks)) ↔ Shape cfg line := by
  constructor
  · rintro ⟨raw, s, cks, h⟩
    obtain ⟨pre, d, b, rest, h, -⟩ := parseNmeaSentence_eq_ok.mp h
    exact ⟨pre, d, b, rest, h⟩
  · rintro ⟨pre, d, b, rest, h⟩
    exact ⟨_, _, _, parseNmeaSentence_eq_ok.mpr ⟨pre, d, b, rest, h, rfl, rfl, rfl⟩⟩

/-- A line accepted by `AisParser::parse` (Complete or Incomplete) has the shape (that its checksum
    matches is `C02.accept_implies_checksum`). -/
theorem accepted_has_shape (cfg : Cfg) (st st' : PState) (line : Bytes) (dec : Bool) (f : Frag)
    (h : step cfg st line dec = (st', ok f)) : Shape cfg line := by
  obtain ⟨raw, s, hp, -⟩ := step_ok (congrArg Prod.snd h)
  exact (accepted_iff_shape cfg line).mp ⟨_, _, _, hp⟩

/-- Every other line is rejected with an error at the sentence level and never yields a sentence:
    the state is untouched and the result is an error (or, a priori, a panic — excluded by C01). -/
theorem not_shape_rejected (cfg : Cfg) (st : PState) (line : Bytes) (dec : Bool) (h : ¬ Shape cfg line) :
    (step cfg st line dec).1 = st ∧ ∀ f, (step cfg st line dec).2 ≠ ok f := by
  have hn {raw s cks} : parseNmeaSentence cfg line ≠ ok (raw, s, cks) :=
    fun hp => h ((accepted_iff_shape cfg line).mp ⟨_, _, _, hp⟩)
  exact step_elim cfg st line dec (fun _ _ => ⟨rfl, fun _ h => nomatch h⟩) (fun _ _ => ⟨rfl, fun _ h => nomatch h⟩)
    (fun _ _ _ hp => absurd hp hn) (fun _ _ hp => absurd hp hn)

/-- The bounds inside `Body.WF` (the statement's near-misses each break one): a decimal field needs at least one
    digit and a value ≤ 255; the fill count must be below 6; the payload must be non-empty; the address has five bytes. -/
theorem wf_bounds (cfg : Cfg) (b : Body) (h : b.WF cfg) :
    decVal b.nf ≤ 255 ∧ decVal b.fn ≤ 255 ∧ decVal b.fill < 6 ∧ b.payload ≠ [] ∧ b.nf ≠ [] ∧ b.fn ≠ [] ∧ b.fill ≠ [] ∧
      b.talker.length + b.report.length = 5 :=
  ⟨h.nf.2.2, h.fn.2.2, h.fill.2.2, h.payload.2, h.nf.1, h.fn.1, h.fill.1, by rw [h.talker, h.report]⟩

/-- Non-vacuity: "!AIVDM,1,1,,A,15M,0*6F" is accepted at the sentence level. -/
example : (parseNmeaSentence .std [33, 65, 73, 86, 68, 77, 44, 49, 44, 49, 44, 44, 65, 44, 49, 53, 77, 44, 48, 42, 54, 70]).isOk = true := by decide +kernel

end AisVerif.C08
