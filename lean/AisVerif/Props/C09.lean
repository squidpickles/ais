/-
  C09 — the decoded variant follows the 6-bit type; unsupported types are errors.
-/
import AisVerif.Lemmas.Decoded

namespace AisVerif.C09
open Spec

/-- The table of the statement. -/
def kindOf (t : Nat) : Option Kind :=
  if 1 ≤ t ∧ t ≤ 3 then some .PositionReport
  else if t = 4 then some .BaseStationReport
  else if t = 5 then some .StaticAndVoyageRelatedData
  else if t = 7 then some .BinaryAcknowledgeMessage
  else if t = 6 then some .BinaryAddressedMessage
  else if t = 8 then some .BinaryBroadcastMessage
  else if t = 9 then some .StandardAircraftPositionReport
  else if t = 10 then some .UtcDateInquiry
  else if t = 11 then some .UtcDateResponse
  else if t = 12 then some .AddressedSafetyRelatedMessage
  else if t = 13 then some .SafetyRelatedAcknowledgment
  else if t = 14 then some .SafetyRelatedBroadcastMessage
  else if t = 15 then some .Interrogation
  else if t = 16 then some .AssignmentModeCommand
  else if t = 17 then some .DgnssBroadcastBinaryMessage
  else if t = 18 then some .StandardClassBPositionReport
  else if t = 19 then some .ExtendedClassBPositionReport
  else if t = 20 then some .DataLinkManagementMessage
  else if t = 21 then some .AidToNavigationReport
  else if t = 24 then some .StaticDataReport
  else if t = 27 then some .LongRangeAisBroadcastMessage
  else none

/-- Whichever decoder is selected (by the payload's own six bits, or by a caller addressing a per-type decoder
    directly), a decoded message has that decoder's kind and reports the payload's first six bits as its type. -/
theorem kind_of_decoded {cfg : Cfg} {t : Nat} {bs : List UInt8} {m : Msg} (d : Decoded cfg bs t m) :
    some m.kind = kindOf t ∧ m.get .message_type = some (.nat (field bs 0 6)) := by
  revert d
  fun_cases Decoded cfg bs t m    -- by the shape of the arm, in the order of `Decoded`
  iterate 6 (rintro ⟨_, _, _, rfl⟩; exact ⟨rfl, rfl⟩)
  iterate 10 (rintro ⟨_, rfl⟩; exact ⟨rfl, rfl⟩)
  iterate 5 (rintro ⟨_, _, rfl⟩; exact ⟨rfl, rfl⟩)
  · rintro ⟨_, h⟩; obtain ⟨_, rfl⟩ := decodeT15_ok h; exact ⟨rfl, rfl⟩
  · rintro ⟨_, hA, hB, hU⟩
    by_cases p0 : field bs 38 2 = 0
    · obtain ⟨_, rfl⟩ := hA p0; exact ⟨rfl, rfl⟩
    by_cases p1 : field bs 38 2 = 1
    · obtain ⟨_, rfl⟩ := hB p1; exact ⟨rfl, rfl⟩
    · obtain rfl := hU p0 p1; exact ⟨rfl, rfl⟩
  · exact False.elim

/-- **C09, first half.** A decoded message has the kind the table assigns to the first six payload
    bits, and its own type field equals those six bits. -/
theorem parse_kind (cfg : Cfg) (bs : List UInt8) (m : Msg) (h : parseMessage cfg bs = ok m) :
    some m.kind = kindOf (field bs 0 6) ∧ m.get .message_type = some (.nat (field bs 0 6)) :=
  kind_of_decoded (.of_parse rfl h)

/-- The per-type public decoders (`<Type as AisMessageType>::parse`, model `parseAs`) are the arms of the dispatch. -/
theorem parseAs_eq (cfg : Cfg) (t : Nat) (bs : List UInt8) : parseAs cfg t bs = Spec.dispatch cfg t bs :=
  parseAs_eq_dispatch cfg t bs

/-- A message reported by a per-type decoder — even one handed another type's payload — has that decoder's kind, and
    its own type field is the first six bits of the payload it was given. -/
theorem parseAs_kind (cfg : Cfg) (t : Nat) (bs : List UInt8) (m : Msg) (h : parseAs cfg t bs = ok m) :
    some m.kind = kindOf t ∧ m.get .message_type = some (.nat (field bs 0 6)) := by
  rw [parseAs_eq] at h
  exact kind_of_decoded (.of_dispatch h)

/-- `messages::parse` never panics (also used by C01). -/
theorem parseMessage_ne_panic (cfg : Cfg) (bs : List UInt8) (p : Panic) : parseMessage cfg bs ≠ panic p :=
  (cl_parseMessage cfg bs).1 p

/-- **C09, second half.** Every other type value (0, 22, 23, 25, 26, 28-63), and the empty payload,
    yield an error. -/
theorem unsupported_err (cfg : Cfg) (bs : List UInt8) (h : kindOf (field bs 0 6) = none ∨ bs = []) :
    ∃ e, parseMessage cfg bs = err e :=
  parseMessage_err_of_not_ok fun m hp => by
    rcases h with h | rfl
    · have := (parse_kind cfg bs m hp).1
      rw [h] at this; cases this
    · rw [parseMessage_eq] at hp
      exact absurd (ite_eof_ok hp).1 (by decide)

/-- The table is what the statement lists: exactly these 23 values are supported. -/
theorem kindOf_supported (t : Nat) (ht : t < 64) :
    (kindOf t).isSome = decide (t ∈ [1, 2, 3, 4, 5, 6, 7, 8, 9, 10, 11, 12, 13, 14, 15, 16, 17, 18, 19, 20, 21, 24, 27]) := by
  revert t
  decide +kernel

/-- Non-vacuity: a 168-bit type-1 payload of zeros decodes as a position report. -/
example : Spec.decode .std ([4] ++ List.replicate 20 0) =
    ok (Spec.decodeT01 ([4] ++ List.replicate 20 0) (Spec.sotdma 0)) := by rfl

end AisVerif.C09
