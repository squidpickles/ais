/-
  C11 — 'not available' codes, and only those, decode to an absent value.

  The tables `Spec.Scaled.*` (C10) carry each scaled field's sentinel; `Spec.Opt.*` list the
  integer fields with a sentinel.  Here: (1) a field rendered from such a table is absent exactly
  when the raw value equals the sentinel, and otherwise present with the raw value — never an
  error, never another value; (2) per type, the crate reports these fields as the tables say.
-/
import AisVerif.Lemmas.Decoded
import AisVerif.Spec.Layouts

namespace AisVerif.C11
open Spec

theorem scaled_none_iff (e : ScaledSpec) (bs : List UInt8) :
    e.render bs = .none ↔ some (e.raw bs) = e.sentinel := by
  unfold ScaledSpec.render
  cases e.sentinel with
  | none => simp
  | some s => by_cases h : e.raw bs = s <;> simp [h]

theorem scaled_present (e : ScaledSpec) (bs : List UInt8) (h : some (e.raw bs) ≠ e.sentinel) :
    e.render bs = .f32 (e.raw bs) e.op := by
  unfold ScaledSpec.render
  cases hs : e.sentinel with
  | none => rfl
  | some s => exact if_neg fun hc => h (by rw [hs, hc])

theorem opt_none_iff (e : OptSpec) (bs : List UInt8) :
    e.render bs = .none ↔ field bs e.off e.w = e.sentinel := by
  unfold OptSpec.render
  by_cases h : field bs e.off e.w = e.sentinel <;> simp [h]

theorem opt_present (e : OptSpec) (bs : List UInt8) (h : field bs e.off e.w ≠ e.sentinel) :
    e.render bs = .nat (field bs e.off e.w) := if_neg h

/-- The sentinels are the ones the statement lists, at the field's own resolution. -/
example : (Spec.lon28 0).sentinel = some (181 * 600000) ∧ (Spec.lat27 0).sentinel = some (91 * 600000) := by decide
example : Scaled.t17.map (·.sentinel) = [some (181 * 600), some (91 * 600)] := by decide
example : Scaled.t27.map (·.sentinel) = [some (181 * 600), some (91 * 600), some 63, some 511] := by decide
example : (Spec.sog10 0).sentinel = some 1023 ∧ (Spec.cog12 0).sentinel = some 3600 := by decide

/-- Rate of turn: the 8-bit two's-complement value, absent exactly at -128. -/
theorem rot_spec (v : Nat) (hv : v < 256) :
    RateOfTurn.parse v = if toSigned 8 v = -128 then .none else .int (toSigned 8 v) := rfl

def Reports (m : Msg) (bs : List UInt8) (table : List OptSpec) : Prop :=
  ∀ e ∈ table, m.get e.key = some (e.render bs)

theorem t01 (cfg : Cfg) (bs : List UInt8) (m : Msg) (ht : 1 ≤ field bs 0 6 ∧ field bs 0 6 ≤ 3)
    (h : parseMessage cfg bs = ok m) :
    Reports m bs Opt.t01 ∧ m.get .rate_of_turn = some (RateOfTurn.parse (field bs 42 8)) := by
  obtain ⟨_, r, _, rfl⟩ := Decoded.of_parse_T01 ht h
  exact ⟨forall_mem_of_map_eq (by rfl), rfl⟩

theorem t04 (cfg : Cfg) (bs : List UInt8) (m : Msg) (ht : field bs 0 6 = 4)
    (h : parseMessage cfg bs = ok m) : Reports m bs Opt.t04 := by
  obtain ⟨_, r, _, rfl⟩ := Decoded.of_parse ht h
  exact forall_mem_of_map_eq (by rfl)

theorem t11 (cfg : Cfg) (bs : List UInt8) (m : Msg) (ht : field bs 0 6 = 11)
    (h : parseMessage cfg bs = ok m) : Reports m bs Opt.t04 := by
  obtain ⟨_, r, _, rfl⟩ := Decoded.of_parse ht h
  exact forall_mem_of_map_eq (by rfl)

theorem t05 (cfg : Cfg) (bs : List UInt8) (m : Msg) (ht : field bs 0 6 = 5)
    (h : parseMessage cfg bs = ok m) : Reports m bs Opt.t05 := by
  obtain ⟨_, rfl⟩ := Decoded.of_parse ht h
  exact forall_mem_of_map_eq (by rfl)

theorem t09 (cfg : Cfg) (bs : List UInt8) (m : Msg) (ht : field bs 0 6 = 9)
    (h : parseMessage cfg bs = ok m) : Reports m bs Opt.t09 := by
  obtain ⟨_, r, _, rfl⟩ := Decoded.of_parse ht h
  exact forall_mem_of_map_eq (by rfl)

theorem t18 (cfg : Cfg) (bs : List UInt8) (m : Msg) (ht : field bs 0 6 = 18)
    (h : parseMessage cfg bs = ok m) : Reports m bs Opt.t18 := by
  obtain ⟨_, rfl⟩ := Decoded.of_parse ht h
  exact forall_mem_of_map_eq (by rfl)

theorem t19 (cfg : Cfg) (bs : List UInt8) (m : Msg) (ht : field bs 0 6 = 19)
    (h : parseMessage cfg bs = ok m) : Reports m bs Opt.t18 := by
  obtain ⟨_, rfl⟩ := Decoded.of_parse ht h
  exact forall_mem_of_map_eq (by rfl)

/-- Interrogation slot offset: a request whose 12 offset bits are present reports them, absent
    exactly at 0. -/
theorem interrogation_offset (bs : List UInt8) (q : Nat) (h : 8 * bs.length - (q + 6) ≥ 12) :
    (Spec.interMsg bs q).1 =
      [(.messages_type, .nat (field bs q 6)),
       (.messages_slot_offset, if field bs (q + 6) 12 = 0 then .none else .nat (field bs (q + 6) 12))] := by
  unfold Spec.interMsg optNe
  simp only [h, if_true]

end AisVerif.C11
