/-
  C12 — enumerated codes map to the named values, injectively, unknowns preserved.

  Every statement below quantifies over the *complete* code space of its field (16, 4, 32, 256 …
  values) and is checked by kernel evaluation of the whole table (`decide +kernel`): these are
  proofs by exhaustive enumeration of a finite domain, not samples.  (The ship-type codes from 100 on,
  which no named arm reaches, are settled by that argument instead: `parseArms_none`.)
-/
import AisVerif.Spec.Tables
import AisVerif.Lemmas.Decoded

namespace AisVerif.C12
open Spec

/-! ### Each code maps to the value the specification names -/

/-- The three facts about an enumeration in one pass over its codes: walking the arms is what costs, and the
    kernel then does it once per code instead of three times. -/
theorem navStatus_codes : ∀ c : Fin 16, NavigationStatus.parse c.val = Spec.navStatus c.val ∧
    (NavigationStatus.parse c.val = .none ↔ c.val = 15) ∧
    (c.val ≠ 15 → Spec.codeOf Spec.navStatusNames (NavigationStatus.parse c.val) = some c.val) := by decide +kernel
theorem epfd_codes : ∀ c : Fin 16, EpfdType.parse c.val = Spec.epfd c.val ∧
    (EpfdType.parse c.val = .none ↔ (c.val = 0 ∨ c.val = 15)) ∧
    (c.val ≠ 0 → c.val ≠ 15 → Spec.codeOf Spec.epfdNames (EpfdType.parse c.val) = some c.val) := by decide +kernel
theorem navaid_codes : ∀ c : Fin 32, NavaidType.parse c.val = Spec.navaid c.val ∧
    (NavaidType.parse c.val = .none ↔ c.val = 0) ∧
    (c.val ≠ 0 → Spec.codeOf Spec.navaidNames (NavaidType.parse c.val) = some c.val) := by decide +kernel
theorem maneuver_codes : ∀ c : Fin 4, ManeuverIndicator.parse c.val = Spec.maneuver c.val ∧
    (ManeuverIndicator.parse c.val = .none ↔ c.val = 0) ∧
    ∀ c' : Fin 4, ManeuverIndicator.parse c.val = ManeuverIndicator.parse c'.val → c = c' := by decide +kernel
theorem syncState_codes : ∀ c : Fin 4, SyncState.parse c.val = Spec.syncState c.val ∧
    ∀ c' : Fin 4, SyncState.parse c.val = SyncState.parse c'.val → c = c' := by decide +kernel

/-- A code that only nameless arms can reach is absent. -/
theorem parseArms_none {arms : List Arm} {d : Nat} (h : ∀ a ∈ arms, d ≤ a.hi → a.name = "") :
    parseArms arms d = .none := by
  unfold parseArms
  induction arms with
  | nil => rfl
  | cons a t ih =>
    unfold matchArms
    split
    next hd => simp [Arm.val, h a (.head _) hd.2]
    next => exact ih fun b hb => h b (.tail _ hb)

/-- Codes below 100 by evaluation; from 100 on every named arm has ended (`parseArms_none`), which spares
    the kernel 156 walks to the end of the table. -/
theorem shipType_codes : ∀ c : Fin 256, ShipType.parse c.val = Spec.shipType c.val ∧
    (ShipType.parse c.val = .none ↔ (c.val = 0 ∨ 100 ≤ c.val)) ∧
    (1 ≤ c.val → c.val ≤ 99 → shipTypeToU8 (ShipType.parse c.val) = some c.val) := by
  have low : ∀ c : Fin 100, ShipType.parse c.val = Spec.shipType c.val ∧
      (ShipType.parse c.val = .none ↔ (c.val = 0 ∨ 100 ≤ c.val)) ∧
      (1 ≤ c.val → c.val ≤ 99 → shipTypeToU8 (ShipType.parse c.val) = some c.val) := by decide +kernel
  intro ⟨c, _⟩
  obtain h | h := Nat.lt_or_ge c 100
  · exact low ⟨c, h⟩
  · have hn : ShipType.parse c = .none := parseArms_none fun a ha hd =>
      (by decide : ∀ a ∈ shipTypeArms, 100 ≤ a.hi → a.name = "") a ha (Nat.le_trans h hd)
    exact ⟨by rw [hn, Spec.shipType, if_pos (.inr h)], iff_of_true hn (.inr h),
      fun _ h' => absurd (Nat.le_trans h h') (by decide)⟩

theorem navStatus_table : ∀ c : Fin 16, NavigationStatus.parse c.val = Spec.navStatus c.val := fun c => (navStatus_codes c).1
theorem maneuver_table : ∀ c : Fin 4, ManeuverIndicator.parse c.val = Spec.maneuver c.val := fun c => (maneuver_codes c).1
theorem epfd_table : ∀ c : Fin 16, EpfdType.parse c.val = Spec.epfd c.val := fun c => (epfd_codes c).1
theorem shipType_table : ∀ c : Fin 256, ShipType.parse c.val = Spec.shipType c.val := fun c => (shipType_codes c).1
theorem navaid_table : ∀ c : Fin 32, NavaidType.parse c.val = Spec.navaid c.val := fun c => (navaid_codes c).1
theorem syncState_table : ∀ c : Fin 4, SyncState.parse c.val = Spec.syncState c.val := fun c => (syncState_codes c).1

/-! ### The 'undefined' codes are absent, and only those -/

theorem navStatus_absent : ∀ c : Fin 16, (NavigationStatus.parse c.val = .none ↔ c.val = 15) :=
  fun c => (navStatus_codes c).2.1
theorem maneuver_absent : ∀ c : Fin 4, (ManeuverIndicator.parse c.val = .none ↔ c.val = 0) := fun c => (maneuver_codes c).2.1
theorem epfd_absent : ∀ c : Fin 16, (EpfdType.parse c.val = .none ↔ (c.val = 0 ∨ c.val = 15)) :=
  fun c => (epfd_codes c).2.1
theorem shipType_absent : ∀ c : Fin 256, (ShipType.parse c.val = .none ↔ (c.val = 0 ∨ 100 ≤ c.val)) :=
  fun c => (shipType_codes c).2.1
theorem navaid_absent : ∀ c : Fin 32, (NavaidType.parse c.val = .none ↔ c.val = 0) := fun c => (navaid_codes c).2.1

/-! ### Distinct codes give distinct values; unassigned codes stay recoverable -/

/-- Converting a ship type back to its number returns the transmitted code for every code 1-99
    (`impl From<ShipType> for u8`). -/
theorem shipType_roundtrip : ∀ c : Fin 256, 1 ≤ c.val → c.val ≤ 99 → shipTypeToU8 (ShipType.parse c.val) = some c.val :=
  fun c => (shipType_codes c).2.2

theorem navStatus_code : ∀ c : Fin 16, c.val ≠ 15 → Spec.codeOf Spec.navStatusNames (NavigationStatus.parse c.val) = some c.val :=
  fun c => (navStatus_codes c).2.2
theorem epfd_code : ∀ c : Fin 16, c.val ≠ 0 → c.val ≠ 15 → Spec.codeOf Spec.epfdNames (EpfdType.parse c.val) = some c.val :=
  fun c => (epfd_codes c).2.2
theorem navaid_code : ∀ c : Fin 32, c.val ≠ 0 → Spec.codeOf Spec.navaidNames (NavaidType.parse c.val) = some c.val :=
  fun c => (navaid_codes c).2.2
theorem maneuver_injective : ∀ c c' : Fin 4, ManeuverIndicator.parse c.val = ManeuverIndicator.parse c'.val → c = c' :=
  fun c => (maneuver_codes c).2.2
theorem syncState_injective : ∀ c c' : Fin 4, SyncState.parse c.val = SyncState.parse c'.val → c = c' :=
  fun c => (syncState_codes c).2

/-- A left inverse gives injectivity on the codes that are not 'undefined'. -/
theorem shipType_injective (c c' : Fin 256) (h1 : 1 ≤ c.val ∧ c.val ≤ 99) (h2 : 1 ≤ c'.val ∧ c'.val ≤ 99)
    (h : ShipType.parse c.val = ShipType.parse c'.val) : c = c' := by
  have a := shipType_roundtrip c h1.1 h1.2
  rw [h, shipType_roundtrip c' h2.1 h2.2] at a
  exact Fin.ext (Option.some.inj a).symm

/-! ### Two-valued fields: both codes named, never the `unreachable!()` arm on a one-bit field -/

theorem twoValued (bs : List UInt8) (p : Nat) :
    Accuracy.parse (field bs p 1) = ok (if field bs p 1 = 0 then .sym "Unaugmented" else .sym "Dgps") ∧
    Dte.from (field bs p 1) = ok (if field bs p 1 = 0 then .sym "Ready" else .sym "NotReady") ∧
    AssignedMode.parse (field bs p 1) = ok (if field bs p 1 = 0 then .sym "Autonomous" else .sym "Assigned") ∧
    CarrierSense.parse (field bs p 1) = ok (if field bs p 1 = 0 then .sym "Sotdma" else .sym "CarrierSense") :=
  ⟨twoWay_field _ _ bs p, twoWay_field _ _ bs p, twoWay_field _ _ bs p, twoWay_field _ _ bs p⟩

/-! ### Inside the messages: each enumerated field is its table applied to the field's own bits -/

structure EnumSpec where
  key : Key
  off : Nat
  w : Nat
  parse : Nat → Val

def EnumSpec.render (e : EnumSpec) (bs : List UInt8) : Val := e.parse (field bs e.off e.w)

def Reports (m : Msg) (bs : List UInt8) (table : List EnumSpec) : Prop :=
  ∀ e ∈ table, m.get e.key = some (e.render bs)

def e01 : List EnumSpec :=
  [⟨.navigation_status, 38, 4, NavigationStatus.parse⟩, ⟨.position_accuracy, 60, 1, Spec.accuracy⟩,
   ⟨.maneuver_indicator, 143, 2, ManeuverIndicator.parse⟩]
def e04 : List EnumSpec := [⟨.fix_quality, 78, 1, Spec.accuracy⟩, ⟨.epfd_type, 134, 4, EpfdType.parse⟩]
def e05 : List EnumSpec := [⟨.ship_type, 232, 8, ShipType.parse⟩, ⟨.epfd_type, 270, 4, EpfdType.parse⟩]
def e09 : List EnumSpec :=
  [⟨.position_accuracy, 60, 1, Spec.accuracy⟩, ⟨.dte, 142, 1, Spec.dte⟩, ⟨.assigned_mode, 146, 1, Spec.assigned⟩]
def e18 : List EnumSpec :=
  [⟨.position_accuracy, 56, 1, Spec.accuracy⟩, ⟨.cs_unit, 141, 1, Spec.carrierSense⟩, ⟨.assigned_mode, 146, 1, Spec.assigned⟩]
def e19 : List EnumSpec :=
  [⟨.position_accuracy, 56, 1, Spec.accuracy⟩, ⟨.type_of_ship_and_cargo, 263, 8, ShipType.parse⟩,
   ⟨.epfd_type, 301, 4, EpfdType.parse⟩, ⟨.dte, 306, 1, Spec.dte⟩, ⟨.assigned_mode, 307, 1, Spec.assigned⟩]
def e21 : List EnumSpec :=
  [⟨.aid_type, 38, 5, NavaidType.parse⟩, ⟨.accuracy, 163, 1, Spec.accuracy⟩, ⟨.epfd_type, 249, 4, EpfdType.parse⟩]
def e24B : List EnumSpec := [⟨.ship_type, 40, 8, ShipType.parse⟩]
def e27 : List EnumSpec := [⟨.position_accuracy, 38, 1, Spec.accuracy⟩, ⟨.navigation_status, 40, 4, NavigationStatus.parse⟩]

theorem t01 (cfg : Cfg) (bs : List UInt8) (m : Msg) (ht : 1 ≤ field bs 0 6 ∧ field bs 0 6 ≤ 3)
    (h : parseMessage cfg bs = ok m) : Reports m bs e01 := by
  obtain ⟨_, r, _, rfl⟩ := Decoded.of_parse_T01 ht h
  exact forall_mem_of_map_eq (by rfl)

theorem t04 (cfg : Cfg) (bs : List UInt8) (m : Msg) (ht : field bs 0 6 = 4)
    (h : parseMessage cfg bs = ok m) : Reports m bs e04 := by
  obtain ⟨_, r, _, rfl⟩ := Decoded.of_parse ht h
  exact forall_mem_of_map_eq (by rfl)

theorem t11 (cfg : Cfg) (bs : List UInt8) (m : Msg) (ht : field bs 0 6 = 11)
    (h : parseMessage cfg bs = ok m) : Reports m bs e04 := by
  obtain ⟨_, r, _, rfl⟩ := Decoded.of_parse ht h
  exact forall_mem_of_map_eq (by rfl)

theorem t05 (cfg : Cfg) (bs : List UInt8) (m : Msg) (ht : field bs 0 6 = 5)
    (h : parseMessage cfg bs = ok m) : Reports m bs e05 := by
  obtain ⟨_, rfl⟩ := Decoded.of_parse ht h
  exact forall_mem_of_map_eq (by rfl)

theorem t09 (cfg : Cfg) (bs : List UInt8) (m : Msg) (ht : field bs 0 6 = 9)
    (h : parseMessage cfg bs = ok m) : Reports m bs e09 := by
  obtain ⟨_, r, _, rfl⟩ := Decoded.of_parse ht h
  exact forall_mem_of_map_eq (by rfl)

theorem t18 (cfg : Cfg) (bs : List UInt8) (m : Msg) (ht : field bs 0 6 = 18)
    (h : parseMessage cfg bs = ok m) : Reports m bs e18 := by
  obtain ⟨_, rfl⟩ := Decoded.of_parse ht h
  exact forall_mem_of_map_eq (by rfl)

theorem t19 (cfg : Cfg) (bs : List UInt8) (m : Msg) (ht : field bs 0 6 = 19)
    (h : parseMessage cfg bs = ok m) : Reports m bs e19 := by
  obtain ⟨_, rfl⟩ := Decoded.of_parse ht h
  exact forall_mem_of_map_eq (by rfl)

theorem t21 (cfg : Cfg) (bs : List UInt8) (m : Msg) (ht : field bs 0 6 = 21)
    (h : parseMessage cfg bs = ok m) : Reports m bs e21 := by
  obtain ⟨_, rfl⟩ := Decoded.of_parse ht h
  exact forall_mem_of_map_eq (by rfl)

theorem t24B (cfg : Cfg) (bs : List UInt8) (m : Msg) (ht : field bs 0 6 = 24) (hp : field bs 38 2 = 1)
    (h : parseMessage cfg bs = ok m) : Reports m bs e24B := by
  obtain ⟨_, rfl⟩ := Decoded.of_parse_T24B ht hp h
  exact forall_mem_of_map_eq (by rfl)

theorem t27 (cfg : Cfg) (bs : List UInt8) (m : Msg) (ht : field bs 0 6 = 27)
    (h : parseMessage cfg bs = ok m) : Reports m bs e27 := by
  obtain ⟨_, rfl⟩ := Decoded.of_parse ht h
  exact forall_mem_of_map_eq (by rfl)

end AisVerif.C12
