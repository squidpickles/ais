/-
  C13 — text fields are the 6-bit ASCII decoding with padding stripped.

  `Spec.chars bs p k` is the character-by-character decoding of the `6k` bits at `p`
  (`Spec.sixbitAscii`: 0-31 ↦ '@'..'_', 32-63 ↦ ' '..'?'); `Spec.trim` strips leading spaces, then
  trailing '@', then trailing spaces.  The refinement theorems (Refine/*, `parse6bitAscii_spec`)
  show the crate's `parse_6bit_ascii` computes `trim (chars …)`; here are the facts the statement
  lists about that value, and the table of where each text field lives.
-/
import AisVerif.Lemmas.Decoded

namespace AisVerif.C13
open Spec

theorem sixbitAscii_table : ∀ v : Fin 64,
    (Spec.sixbitAscii v.val).toNat = (if v.val < 32 then v.val + 64 else v.val) := by decide +kernel

theorem sixbitAscii_ascii (v : Fin 64) : 32 ≤ (Spec.sixbitAscii v.val).toNat ∧ (Spec.sixbitAscii v.val).toNat ≤ 95 := by
  rw [sixbitAscii_table]; split <;> omega

theorem sixbitAscii_injective : ∀ v w : Fin 64, Spec.sixbitAscii v.val = Spec.sixbitAscii w.val → v = w := by
  intro v w h
  have := congrArg UInt8.toNat h
  rw [sixbitAscii_table, sixbitAscii_table] at this
  ext; split at this <;> split at this <;> omega

/-! ### The untrimmed decoding: `k` characters, the `i`-th from bits `p + 6i` -/

/-- A text field is a list of six-bit items. -/
theorem chars_eq_elemsFrom (bs : List UInt8) : ∀ k p,
    Spec.chars bs p k = elemsFrom (fun bs q => Spec.sixbitAscii (field bs q 6)) bs 6 p k
  | 0, _ => rfl
  | k + 1, p => congrArg (_ :: ·) (chars_eq_elemsFrom bs k (p + 6))

theorem chars_length (bs : List UInt8) (k p : Nat) : (Spec.chars bs p k).length = k := by
  rw [chars_eq_elemsFrom, elemsFrom_length]

theorem chars_get (bs : List UInt8) (k p i : Nat) (hi : i < k) :
    (Spec.chars bs p k)[i]? = some (Spec.sixbitAscii (field bs (p + 6 * i) 6)) := by
  rw [chars_eq_elemsFrom, elemsFrom_getElem?, if_pos hi]

theorem chars_ascii (bs : List UInt8) (k p : Nat) : ∀ c ∈ Spec.chars bs p k, 32 ≤ c.toNat ∧ c.toNat ≤ 95 := by
  induction k generalizing p with
  | zero => exact fun _ h => nomatch h
  | succ k ih => exact List.forall_mem_cons.2 ⟨sixbitAscii_ascii ⟨field bs p 6, field_lt bs p 6⟩, ih (p + 6)⟩

/-! ### Trimming: a contiguous piece of the decoding, no longer than the field -/

theorem dropTrailing_prefix (x : UInt8) (cs : List UInt8) : Spec.dropTrailing x cs <+: cs := by
  unfold Spec.dropTrailing
  rw [← List.reverse_suffix, List.reverse_reverse]
  exact List.dropWhile_suffix _

/-- The result is a contiguous sub-list of the untrimmed characters: interior characters are
    preserved unchanged and in order. -/
theorem trim_infix (cs : List UInt8) : Spec.trim cs <:+: cs :=
  ((dropTrailing_prefix _ _).isInfix.trans (dropTrailing_prefix _ _).isInfix).trans (List.dropWhile_suffix _).isInfix

/-- A text field of `k` characters: valid ASCII (in fact 0x20-0x5F), at most `k` characters. -/
theorem text_ascii_and_short (bs : List UInt8) (p k : Nat) :
    (∀ c ∈ Spec.trim (Spec.chars bs p k), 32 ≤ c.toNat ∧ c.toNat ≤ 95) ∧
      (Spec.trim (Spec.chars bs p k)).length ≤ k :=
  ⟨fun c hc => chars_ascii bs k p c ((trim_infix _).subset hc),
    Nat.le_trans (trim_infix _).length_le (Nat.le_of_eq (chars_length bs k p))⟩

theorem head?_dropLeading (x : UInt8) (cs : List UInt8) : (Spec.dropLeading x cs).head? ≠ some x := by
  intro h
  have := List.head?_dropWhile_not (· == x) cs
  rw [show (cs.dropWhile (· == x)).head? = some x from h] at this
  simp at this

theorem getLast?_dropTrailing (x : UInt8) (cs : List UInt8) : (Spec.dropTrailing x cs).getLast? ≠ some x := by
  unfold Spec.dropTrailing
  rw [List.getLast?_reverse]
  exact head?_dropLeading x cs.reverse

/-- No leading space is left: trimming at the end keeps the head (a head `a` is a prefix `[a]`). -/
theorem trim_head (cs : List UInt8) : (Spec.trim cs).head? ≠ some 0x20 := fun h =>
  head?_dropLeading 0x20 cs <| List.singleton_prefix_iff_head?_eq_some.1 <|
    ((List.singleton_prefix_iff_head?_eq_some.2 h).trans (dropTrailing_prefix _ _)).trans (dropTrailing_prefix _ _)

/-- No trailing space is left. -/
theorem trim_last (cs : List UInt8) : (Spec.trim cs).getLast? ≠ some 0x20 := getLast?_dropTrailing _ _

structure TextSpec where
  key : Key
  off : Nat
  chars : Nat

def TextSpec.render (e : TextSpec) (bs : List UInt8) : Val := .text (Spec.trim (Spec.chars bs e.off e.chars))

def Reports (m : Msg) (bs : List UInt8) (table : List TextSpec) : Prop :=
  ∀ e ∈ table, m.get e.key = some (e.render bs)

def x05 : List TextSpec := [⟨.callsign, 70, 7⟩, ⟨.vessel_name, 112, 20⟩]
def x19 : List TextSpec := [⟨.name, 143, 20⟩]
def x21 : List TextSpec := [⟨.name, 43, 20⟩]
def x24A : List TextSpec := [⟨.vessel_name, 40, 20⟩]
def x24B : List TextSpec := [⟨.vendor_id, 48, 3⟩, ⟨.model_serial, 66, 4⟩, ⟨.callsign, 90, 7⟩]

theorem t05 (cfg : Cfg) (bs : List UInt8) (m : Msg) (ht : field bs 0 6 = 5)
    (h : parseMessage cfg bs = ok m) :
    Reports m bs x05 ∧
      m.get .destination = some (.text (Spec.trim (Spec.chars bs 302 (min 20 ((8 * bs.length - 302) / 6))))) := by
  obtain ⟨_, rfl⟩ := Decoded.of_parse ht h
  refine ⟨forall_mem_of_map_eq (by rfl), ?_⟩
  rw [← t5DestChars_eq]; rfl

theorem t19 (cfg : Cfg) (bs : List UInt8) (m : Msg) (ht : field bs 0 6 = 19)
    (h : parseMessage cfg bs = ok m) : Reports m bs x19 := by
  obtain ⟨_, rfl⟩ := Decoded.of_parse ht h
  exact forall_mem_of_map_eq (by rfl)

theorem t21 (cfg : Cfg) (bs : List UInt8) (m : Msg) (ht : field bs 0 6 = 21)
    (h : parseMessage cfg bs = ok m) : Reports m bs x21 := by
  obtain ⟨_, rfl⟩ := Decoded.of_parse ht h
  exact forall_mem_of_map_eq (by rfl)

theorem t24A (cfg : Cfg) (bs : List UInt8) (m : Msg) (ht : field bs 0 6 = 24) (hp : field bs 38 2 = 0)
    (h : parseMessage cfg bs = ok m) : Reports m bs x24A := by
  obtain ⟨_, rfl⟩ := Decoded.of_parse_T24A ht hp h
  exact forall_mem_of_map_eq (by rfl)

theorem t24B (cfg : Cfg) (bs : List UInt8) (m : Msg) (ht : field bs 0 6 = 24) (hp : field bs 38 2 = 1)
    (h : parseMessage cfg bs = ok m) : Reports m bs x24B := by
  obtain ⟨_, rfl⟩ := Decoded.of_parse_T24B ht hp h
  exact forall_mem_of_map_eq (by rfl)

/-- Safety texts (types 12 and 14): all `(L - 72) / 6` resp. `(L - 40) / 6` characters to the end of
    the payload, up to 156 characters and beyond. -/
theorem t12 (cfg : Cfg) (bs : List UInt8) (m : Msg) (ht : field bs 0 6 = 12)
    (h : parseMessage cfg bs = ok m) :
    m.get .text = some (.text (Spec.trim (Spec.chars bs 72 ((8 * bs.length - 72) / 6)))) := by
  obtain ⟨_, _, rfl⟩ := Decoded.of_parse ht h
  rfl

theorem t14 (cfg : Cfg) (bs : List UInt8) (m : Msg) (ht : field bs 0 6 = 14)
    (h : parseMessage cfg bs = ok m) :
    m.get .text = some (.text (Spec.trim (Spec.chars bs 40 ((8 * bs.length - 40) / 6)))) := by
  obtain ⟨_, _, rfl⟩ := Decoded.of_parse ht h
  rfl

/-- Non-vacuity / sanity: "  AB@C @@  " decodes to "AB@C @@": the outer spaces go, the interior '@' stays, and so do
    the '@' that spaces followed (trailing '@' are stripped before trailing spaces, not after). -/
example : Spec.trim [0x20, 0x20, 0x41, 0x42, 0x40, 0x43, 0x20, 0x40, 0x40, 0x20, 0x20] =
    [0x41, 0x42, 0x40, 0x43, 0x20, 0x40, 0x40] := by decide

end AisVerif.C13
