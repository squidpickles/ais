/-
  C14 — variable-length messages decode what is present; short payloads are rejected.

  `L = 8 * bs.length` is the number of bits present (unarmored buffers are whole bytes; padding is
  zero by C03).  Three groups of theorems, following the statement's clauses:
    1. element counts at every length;
    2. a payload shorter than the mandatory part of its type is an error;
    3. nothing is fabricated: whatever is reported is the bits at its specified position (that is
       what the `Reports` theorems of C04/C10-C13 state; here the list/optional-tail forms).
  The type-5 DTE clause is false of the crate for truncated payloads (finding D12):
  `t5_dte_partial` says what holds, `d12_counterexample` is the crate's own test vector.
-/
import AisVerif.Props.C04

namespace AisVerif.C14
open Spec

/-! ### 1. Element counts -/

/-- Acknowledgement lists (types 7, 13): `min 4 ((L - 40) / 32)` entries, at least one. -/
theorem acks_count (cfg : Cfg) (bs : List UInt8) (m : Msg) (ht : field bs 0 6 = 7 ∨ field bs 0 6 = 13)
    (h : parseMessage cfg bs = ok m) :
    m.get .count = some (.nat (min 4 ((8 * bs.length - 40) / 32))) ∧ 1 ≤ min 4 ((8 * bs.length - 40) / 32) := by
  have hL : 72 ≤ 8 * bs.length :=
    ht.elim (fun ht => (Decoded.of_parse ht h).1) (fun ht => (Decoded.of_parse ht h).1)
  refine ⟨?_, Nat.le_min.2 ⟨by decide, (lt_div_sub_iff (by decide)).2 hL⟩⟩
  rcases ht with ht | ht
  · exact (C04.t07 cfg bs m ht h).2.1
  · exact (C04.t13 cfg bs m ht h).2.1

/-- Data-link management (type 20): `min 4 ((L - 40) / 30)` reservations, at least one. -/
theorem reservations_count (cfg : Cfg) (bs : List UInt8) (m : Msg) (ht : field bs 0 6 = 20)
    (h : parseMessage cfg bs = ok m) :
    m.get .count = some (.nat (min 4 ((8 * bs.length - 40) / 30))) ∧ 1 ≤ min 4 ((8 * bs.length - 40) / 30) :=
  ⟨(C04.t20 cfg bs m ht h).2.1, Nat.le_min.2 ⟨by decide, (lt_div_sub_iff (by decide)).2 (Decoded.of_parse ht h).1⟩⟩

/-- Assignment command (type 16): the second station is reported iff its 52 bits are present. -/
theorem t16_second (cfg : Cfg) (bs : List UInt8) (m : Msg) (ht : field bs 0 6 = 16)
    (h : parseMessage cfg bs = ok m) :
    (144 ≤ 8 * bs.length → m.get .mmsi2 = some (.nat (field bs 92 30))) ∧
    (¬ 144 ≤ 8 * bs.length → m.get .mmsi2 = some .none ∧ m.get .offset2 = some .none ∧ m.get .increment2 = some .none) := by
  obtain ⟨_, rfl⟩ := Decoded.of_parse ht h
  constructor
  · intro hL; simp only [hL]; rfl
  · intro hL; simp only [hL]; exact ⟨rfl, rfl, rfl⟩

/-- Static data part A is accepted with (168 bits) or without (160 bits) its spare. -/
theorem t24A_lengths (cfg : Cfg) (bs : List UInt8) (ht : field bs 0 6 = 24) (hp : field bs 38 2 = 0)
    (hL : 160 ≤ 8 * bs.length) : parseMessage cfg bs = ok (Spec.decodeT24A bs) := by
  rw [parseMessage_of_len cfg bs (by omega), ht, dispatch_T24, if_pos (by omega), if_pos hp, if_pos hL]

/-- Interrogation (type 15) in its three legal forms, as padded to whole bytes by unarmoring:
    88/90 bits (-> 96) and 108-112 bits (-> 120): one station; 160 bits (-> 168): two stations.
    (Between 138 and 145 bits the second station is cut short and the answer is an error; from 146 on there are two.) -/
theorem t15_stations (cfg : Cfg) (bs : List UInt8) (m : Msg) (ht : field bs 0 6 = 15)
    (h : parseMessage cfg bs = ok m) :
    (8 * bs.length < 138 → m.get .stations_count = some (.nat 1)) ∧
    (160 ≤ 8 * bs.length → m.get .stations_count = some (.nat 2)) := by
  obtain ⟨-, h2⟩ := Decoded.of_parse ht h
  constructor
  · intro hL; rw [decodeT15_one bs hL] at h2; cases h2; rfl
  · intro hL; rw [decodeT15_two bs (Nat.le_trans (by decide) hL)] at h2; cases h2; rfl

/-- Safety texts: `(L - 72) / 6` (type 12) / `(L - 40) / 6` (type 14) characters, at least one. -/
theorem text_chars (cfg : Cfg) (bs : List UInt8) (m : Msg) :
    (field bs 0 6 = 12 → parseMessage cfg bs = ok m → 1 ≤ (8 * bs.length - 72) / 6) ∧
    (field bs 0 6 = 14 → parseMessage cfg bs = ok m → 1 ≤ (8 * bs.length - 40) / 6) :=
  ⟨fun ht h => (lt_div_sub_iff (by decide)).2 (Decoded.of_parse ht h).1,
    fun ht h => (lt_div_sub_iff (by decide)).2 (Decoded.of_parse ht h).1⟩

/-! ### Type 5: truncated destination, DTE -/

/-- The destination the specification decoder reads (and `C13.t05` reports) has `min 20 ((L - 302) / 6)` characters:
    every complete character present. -/
theorem t5_destination (bs : List UInt8) : Spec.t5DestChars bs = min 20 ((8 * bs.length - 302) / 6) :=
  t5DestChars_eq bs

/-- What holds of the crate's DTE: for a payload that contains bit 422 it is that bit; for a
    truncated payload that ends on a character boundary it is the default 'not ready'. -/
theorem t5_dte_partial (cfg : Cfg) (bs : List UInt8) (m : Msg) (ht : field bs 0 6 = 5)
    (h : parseMessage cfg bs = ok m) :
    (423 ≤ 8 * bs.length → m.get .dte = some (Spec.dte (field bs 422 1))) ∧
    (8 * bs.length < 423 → (8 * bs.length - 302) % 6 = 0 → m.get .dte = some (.sym "NotReady")) := by
  obtain ⟨-, rfl⟩ := Decoded.of_parse ht h
  have hget : (Spec.decodeT05 bs).get .dte = some (if 302 + 6 * Spec.t5DestChars bs < 8 * bs.length
      then Spec.dte (field bs (302 + 6 * Spec.t5DestChars bs) 1) else .sym "NotReady") := rfl
  rw [hget, t5_destination]
  constructor
  · intro hL; rw [Nat.min_eq_left ((lt_div_sub_iff (by decide)).2 (by omega)), if_pos (by omega)]
  · intro hL hmod; rw [if_neg (by omega)]

/-- The crate's own truncated type-5 test vector (360 bits). -/
def d12Vector : List UInt8 :=
  [20, 49, 1, 148, 154, 0, 0, 0, 0, 245, 53, 211, 109, 192, 61, 53, 9, 4, 0, 0, 0, 0, 0, 0, 0, 0, 0, 0, 0, 79,
   49, 3, 4, 31, 210, 234, 0, 1, 35, 212, 80, 84, 132, 4, 208]

/-- **Finding D12** — the statement's "a missing DTE defaults to 'not ready'" is false of the crate:
    on its own truncated test vector bit 422 is missing and it reports `Ready`, read from bit 356, the
    first leftover bit after the ninth destination character. -/
theorem d12_counterexample :
    8 * d12Vector.length < 423 ∧ (Spec.decodeT05 d12Vector).get .dte = some (.sym "Ready") := by
  constructor
  · decide
  · rfl

/-! ### 2. Too short ⇒ error -/

/-- The mandatory part of each type, in bits: the length the type's arm of `Spec.dispatch` asks for (DESIGN.md §7/C14
    lists these rounded up to whole bytes; type 24 is completed by `t24_short`). -/
def mandatory (t : Nat) : Nat :=
  if 1 ≤ t ∧ t ≤ 4 then 168 else if t = 5 then 302 else if t = 6 then 88 else if t = 7 then 72
  else if t = 8 then 56 else if t = 9 then 167 else if t = 10 then 72 else if t = 11 then 168 else if t = 12 then 78
  else if t = 13 then 72 else if t = 14 then 46 else if t = 15 then 76 else if t = 16 then 92 else if t = 17 then 120
  else if t = 18 then 168 else if t = 19 then 312 else if t = 20 then 70 else if t = 21 then 272
  else if t = 24 then 40 else if t = 27 then 95 else 0

/-- In every case of `Decoded` the first conjunct is the length the type's arm asks for. -/
theorem mandatory_of_decoded {cfg : Cfg} {t : Nat} {bs : List UInt8} {m : Msg} (d : Decoded cfg bs t m) :
    mandatory t ≤ 8 * bs.length := by
  revert d
  fun_cases Decoded cfg bs t m
  iterate 23 exact And.left
  exact False.elim

/-- A payload too short to contain the mandatory part of its type is rejected with an error. -/
theorem too_short_err (cfg : Cfg) (bs : List UInt8) (h : 8 * bs.length < mandatory (field bs 0 6)) :
    ∃ e, parseMessage cfg bs = err e :=
  parseMessage_err_of_not_ok fun _ hp => absurd (mandatory_of_decoded (.of_parse rfl hp)) (Nat.not_le.2 h)

/-- Static data part B needs all 168 bits; part A needs 160. -/
theorem t24_short (cfg : Cfg) (bs : List UInt8) (ht : field bs 0 6 = 24) (h40 : 40 ≤ 8 * bs.length) :
    (field bs 38 2 = 0 → 8 * bs.length < 160 → ∃ e, parseMessage cfg bs = err e) ∧
    (field bs 38 2 = 1 → 8 * bs.length < 168 → ∃ e, parseMessage cfg bs = err e) := by
  constructor
  · exact fun hp hL => parseMessage_err_of_not_ok fun _ h => absurd (Decoded.of_parse_T24A ht hp h).1 (Nat.not_le.2 hL)
  · exact fun hp hL => parseMessage_err_of_not_ok fun _ h => absurd (Decoded.of_parse_T24B ht hp h).1 (Nat.not_le.2 hL)

/-! ### 3. Nothing is fabricated from bits beyond the end -/

/-- A decoded message implies the mandatory part of its type was present … -/
theorem ok_implies_mandatory (cfg : Cfg) (bs : List UInt8) (m : Msg) (h : parseMessage cfg bs = ok m) :
    mandatory (field bs 0 6) ≤ 8 * bs.length := mandatory_of_decoded (.of_parse rfl h)

/-- … and every row of the type's layout tables lies inside that mandatory part: each reported
    integer, flag, scaled or optional field is read from bits that exist. (Rows of the optional
    second halves — type 16's second station, the list elements of types 7/13/20 — are covered by
    the count theorems above: an element is reported only when all its bits are present.) -/
theorem rows_within_mandatory :
    (∀ e ∈ Layout.t01, e.off + e.w ≤ mandatory 1) ∧ (∀ e ∈ Layout.t04, e.off + e.w ≤ mandatory 4) ∧
    (∀ e ∈ Layout.t05, e.off + e.w ≤ mandatory 5) ∧ (∀ e ∈ Layout.t06, e.off + e.w ≤ mandatory 6) ∧
    (∀ e ∈ Layout.t08, e.off + e.w ≤ mandatory 8) ∧ (∀ e ∈ Layout.t09, e.off + e.w ≤ mandatory 9) ∧
    (∀ e ∈ Layout.t10, e.off + e.w ≤ mandatory 10) ∧ (∀ e ∈ Layout.t12, e.off + e.w ≤ mandatory 12) ∧
    (∀ e ∈ Layout.t16one, e.off + e.w ≤ mandatory 16) ∧ (∀ e ∈ Layout.t17, e.off + e.w ≤ mandatory 17) ∧
    (∀ e ∈ Layout.t18, e.off + e.w ≤ mandatory 18) ∧ (∀ e ∈ Layout.t19, e.off + e.w ≤ mandatory 19) ∧
    (∀ e ∈ Layout.t21, e.off + e.w ≤ mandatory 21) ∧ (∀ e ∈ Layout.t27, e.off + e.w ≤ mandatory 27) ∧
    (∀ e ∈ Scaled.t01, e.off + e.w ≤ mandatory 1) ∧ (∀ e ∈ Scaled.t04, e.off + e.w ≤ mandatory 4) ∧
    (∀ e ∈ Scaled.t05, e.off + e.w ≤ mandatory 5) ∧ (∀ e ∈ Scaled.t09, e.off + e.w ≤ mandatory 9) ∧
    (∀ e ∈ Scaled.t17, e.off + e.w ≤ mandatory 17) ∧ (∀ e ∈ Scaled.t18, e.off + e.w ≤ mandatory 18) ∧
    (∀ e ∈ Scaled.t21, e.off + e.w ≤ mandatory 21) ∧ (∀ e ∈ Scaled.t27, e.off + e.w ≤ mandatory 27) ∧
    (∀ e ∈ Opt.t01, e.off + e.w ≤ mandatory 1) ∧ (∀ e ∈ Opt.t04, e.off + e.w ≤ mandatory 4) ∧
    (∀ e ∈ Opt.t05, e.off + e.w ≤ mandatory 5) ∧ (∀ e ∈ Opt.t09, e.off + e.w ≤ mandatory 9) ∧
    (∀ e ∈ Opt.t18, e.off + e.w ≤ mandatory 18) := by
  decide +kernel

/-- Type 24: part A's rows lie within 160 bits, part B's within 168. -/
theorem rows_within_t24 :
    (∀ e ∈ Layout.t24A, e.off + e.w ≤ 160) ∧ (∀ e ∈ Layout.t24B, e.off + e.w ≤ 168) := by decide

/-- List elements: element `i` of an acknowledgement list / reservation list is reported only if
    its last bit is present. -/
theorem list_elements_present (bs : List UInt8) (i : Nat) :
    (i < min 4 ((8 * bs.length - 40) / 32) → ∀ e ∈ Layout.ack i, e.off + e.w ≤ 8 * bs.length) ∧
    (i < min 4 ((8 * bs.length - 40) / 30) → ∀ e ∈ Layout.reservation i, e.off + e.w ≤ 8 * bs.length) := by
  simp only [Layout.ack, Layout.reservation, List.forall_mem_cons, List.not_mem_nil, false_imp_iff, implies_true,
    and_true]
  constructor
  all_goals
    intro hi
    replace hi := (lt_div_sub_iff (by decide)).1 (Nat.lt_of_lt_of_le hi (Nat.min_le_right ..))
    omega

end AisVerif.C14
