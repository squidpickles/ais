/-
  C15 — binary application payloads are passed through bit-exactly.
-/
import AisVerif.Lemmas.Decoded

namespace AisVerif.C15
open Spec

/-- The bytes after the first `k` are exactly the bits from `8k` on, in order, most significant first. -/
theorem drop_bits (bs : List UInt8) (k i : Nat) : bit (bs.drop k) i = bit bs (8 * k + i) := bit_drop bs k i

theorem drop_length (bs : List UInt8) (k : Nat) : (bs.drop k).length = bs.length - k := List.length_drop

/-- Type 6: application identifier from bits 72-87, data = every byte after the 11-byte header. -/
theorem t06 (cfg : Cfg) (bs : List UInt8) (m : Msg) (ht : field bs 0 6 = 6) (h : parseMessage cfg bs = ok m) :
    m.get .dac = some (.nat (field bs 72 10)) ∧ m.get .fid = some (.nat (field bs 82 6)) ∧
      m.get .data = some (.bytes (bs.drop 11)) ∧ (cfg = .noalloc → (bs.drop 11).length ≤ 119) := by
  obtain ⟨_, hc, rfl⟩ := Decoded.of_parse ht h
  exact ⟨rfl, rfl, rfl, hc⟩

/-- Type 8: application identifier from bits 40-55, data = every byte after the 7-byte header. -/
theorem t08 (cfg : Cfg) (bs : List UInt8) (m : Msg) (ht : field bs 0 6 = 8) (h : parseMessage cfg bs = ok m) :
    m.get .dac = some (.nat (field bs 40 10)) ∧ m.get .fid = some (.nat (field bs 50 6)) ∧
      m.get .data = some (.bytes (bs.drop 7)) ∧ (cfg = .noalloc → (bs.drop 7).length ≤ 119) := by
  obtain ⟨_, hc, rfl⟩ := Decoded.of_parse ht h
  exact ⟨rfl, rfl, rfl, hc⟩

/-- Type 17: correction data = every byte after the 80-bit header and the 40-bit DGNSS header. -/
theorem t17 (cfg : Cfg) (bs : List UInt8) (m : Msg) (ht : field bs 0 6 = 17) (h : parseMessage cfg bs = ok m) :
    m.get .data = some (.bytes (bs.drop 15)) ∧ (cfg = .noalloc → (bs.drop 15).length ≤ 119) := by
  obtain ⟨_, hc, rfl⟩ := Decoded.of_parse ht h
  exact ⟨rfl, hc⟩

/-- With an allocator every length is accepted: a type-6 payload with its header present always decodes. -/
theorem t06_any_length (bs : List UInt8) (ht : field bs 0 6 = 6) (hL : 88 ≤ 8 * bs.length) :
    parseMessage .std bs = ok (Spec.decodeT06 bs) ∧ parseMessage .alloc bs = ok (Spec.decodeT06 bs) := by
  constructor <;>
  · rw [parseMessage_of_len _ bs (by omega), ht, dispatch_T06, if_pos hL]; rfl

/-- The no-alloc build rejects exactly the remainders longer than 119 bytes. -/
theorem t06_noalloc (bs : List UInt8) (ht : field bs 0 6 = 6) (hL : 88 ≤ 8 * bs.length) :
    (119 < (bs.drop 11).length → parseMessage .noalloc bs = err (.nomFailure .tooLarge)) ∧
    ((bs.drop 11).length ≤ 119 → parseMessage .noalloc bs = ok (Spec.decodeT06 bs)) := by
  rw [parseMessage_of_len _ bs (by omega), ht, dispatch_T06, if_pos hL, capped_eq]
  exact ⟨fun h => if_pos ⟨rfl, h⟩, fun h => if_neg fun c => absurd c.2 (by unfold maxData; omega)⟩

end AisVerif.C15
