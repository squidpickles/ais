/-
  C16 — communication state is decoded per SOTDMA/ITDMA rules for each type.

  `Spec.sotdma` / `Spec.itdma` (Spec/Radio.lean) are the standard's reading of the 19-bit value.
  Types 1, 2, 4, 11 (SOTDMA), 3 (ITDMA) and 18 (selector bit 148) are proved at full strength.
  Type 9 is false of the crate (finding D11): `t09_partial` states what it does compute,
  `d11_counterexample` is the crate's own test vector.
-/
import AisVerif.Lemmas.Decoded

namespace AisVerif.C16
open Spec

/-- The state is the *last* 19 bits of the 168-bit message. -/
example : 149 + 19 = 168 := rfl

theorem radioOf_sotdma (v : Nat) :
    Spec.radioOf 1 v = some (Spec.sotdma v) ∧ Spec.radioOf 2 v = some (Spec.sotdma v) ∧
    Spec.radioOf 4 v = some (Spec.sotdma v) ∧ Spec.radioOf 11 v = some (Spec.sotdma v) := ⟨rfl, rfl, rfl, rfl⟩

theorem radioOf_itdma (v : Nat) : Spec.radioOf 3 v = some (Spec.itdma v) := rfl

theorem radioOf_t01 {t : Nat} (ht : 1 ≤ t ∧ t ≤ 3) (v : Nat) :
    Spec.radioOf t v = some (if t = 3 then Spec.itdma v else Spec.sotdma v) := by
  obtain rfl | rfl | rfl : t = 1 ∨ t = 2 ∨ t = 3 := by omega
  all_goals rfl

/-- The message's fields end with the fields of the state `r`. -/
def HasRadio (m : Msg) (r : List (Key × Val)) : Prop := ∃ pre, m.fields = pre ++ r

theorem t01 (cfg : Cfg) (bs : List UInt8) (m : Msg) (ht : 1 ≤ field bs 0 6 ∧ field bs 0 6 ≤ 3)
    (h : parseMessage cfg bs = ok m) :
    HasRadio m (if field bs 0 6 = 3 then Spec.itdma (field bs 149 19) else Spec.sotdma (field bs 149 19)) := by
  obtain ⟨_, r, hr, rfl⟩ := Decoded.of_parse_T01 ht h
  rw [radioOf_t01 ht] at hr; cases hr; exact ⟨_, rfl⟩

theorem t04 (cfg : Cfg) (bs : List UInt8) (m : Msg) (ht : field bs 0 6 = 4)
    (h : parseMessage cfg bs = ok m) : HasRadio m (Spec.sotdma (field bs 149 19)) := by
  obtain ⟨_, r, hr, rfl⟩ := Decoded.of_parse ht h
  rw [ht] at hr; cases hr; exact ⟨_, rfl⟩

theorem t11 (cfg : Cfg) (bs : List UInt8) (m : Msg) (ht : field bs 0 6 = 11)
    (h : parseMessage cfg bs = ok m) : HasRadio m (Spec.sotdma (field bs 149 19)) := by
  obtain ⟨_, r, hr, rfl⟩ := Decoded.of_parse ht h
  rw [ht] at hr; cases hr; exact ⟨_, rfl⟩

/-- Type 18: the selector bit (148) preceding the state chooses SOTDMA (0) or ITDMA (1). -/
theorem t18 (cfg : Cfg) (bs : List UInt8) (m : Msg) (ht : field bs 0 6 = 18)
    (h : parseMessage cfg bs = ok m) :
    HasRadio m (if field bs 148 1 = 0 then Spec.sotdma (field bs 149 19) else Spec.itdma (field bs 149 19)) := by
  obtain ⟨_, rfl⟩ := Decoded.of_parse ht h
  exact ⟨_, rfl⟩

/-- **Type 9, what the crate does** (finding D11): SOTDMA of bits 148-166; the selector is never
    consulted, so an ITDMA state cannot be reported, and the state is read one bit early. -/
theorem t09_partial (cfg : Cfg) (bs : List UInt8) (m : Msg) (ht : field bs 0 6 = 9)
    (h : parseMessage cfg bs = ok m) : HasRadio m (Spec.sotdma (field bs 148 19)) := by
  obtain ⟨_, r, hr, rfl⟩ := Decoded.of_parse ht h
  rw [ht] at hr; cases hr; exact ⟨_, rfl⟩

/-- The crate's own type-9 test vector: "91b55wi;hbOS@OdQAC062Ch2089h". -/
def d11Vector : List UInt8 :=
  [36, 26, 133, 23, 252, 75, 194, 167, 227, 65, 251, 33, 69, 48, 6, 9, 60, 2, 0, 130, 112]

/-- **Finding D11** — on that vector the specified state (selector bit 148, bits 149-167) differs
    from what the crate reports. -/
theorem d11_counterexample :
    Spec.sotdma (field d11Vector 148 19) ≠ Spec.selRadio d11Vector := by decide +kernel

/-- For the vector the specified reading is time-out 2 / slot number 624; the crate reports
    time-out 1 / 00:14. -/
example : Spec.selRadio d11Vector =
    [(.radio, .sym "Sotdma"), (.sync_state, .sym "UtcDirect"), (.slot_timeout, .nat 2),
     (.sub_message, .sym "SlotNumber"), (.sub_a, .nat 624)] := by decide +kernel

/-! ### The sub-message is read by time-out value, for every state -/

theorem sotdma_submessage (v : Nat) (hv : v < 2 ^ 19) :
    let to := (v / 2 ^ 14) % 8
    let sub := v % 2 ^ 14
    (to = 0 → (Spec.sotdma v).lookup .sub_message = some (.sym "SlotOffset") ∧ (Spec.sotdma v).lookup .sub_a = some (.nat sub)) ∧
    (to = 1 → (Spec.sotdma v).lookup .sub_message = some (.sym "UtcHourAndMinute") ∧
        (Spec.sotdma v).lookup .sub_a = some (.nat (sub / 512)) ∧ (Spec.sotdma v).lookup .sub_b = some (.nat (sub / 4 % 64))) ∧
    ((to = 2 ∨ to = 4 ∨ to = 6) → (Spec.sotdma v).lookup .sub_message = some (.sym "SlotNumber") ∧ (Spec.sotdma v).lookup .sub_a = some (.nat sub)) ∧
    ((to = 3 ∨ to = 5 ∨ to = 7) → (Spec.sotdma v).lookup .sub_message = some (.sym "ReceivedStations") ∧ (Spec.sotdma v).lookup .sub_a = some (.nat sub)) := by
  intro to sub
  -- three fields under other keys, then the sub message, which computes once the time-out is a numeral
  rw [show Spec.sotdma v = _ ++ subOf to sub from sotdma_eq v]
  clear_value to sub
  refine ⟨?_, ?_, ?_, ?_⟩
  · rintro rfl; exact ⟨rfl, rfl⟩
  · rintro rfl; exact ⟨rfl, rfl, rfl⟩
  · rintro (rfl | rfl | rfl) <;> exact ⟨rfl, rfl⟩
  · rintro (rfl | rfl | rfl) <;> exact ⟨rfl, rfl⟩

/-- The 7-bit minute of the standard (`sub[8:2]`) equals the 6-bit minute the crate reads whenever
    the minute is a legal value (< 64). -/
theorem minute_agrees (sub : Nat) (h : sub / 4 % 128 < 64) : sub / 4 % 64 = sub / 4 % 128 :=
  (Nat.mod_mod_of_dvd _ (by decide : 64 ∣ 128)).symm.trans (Nat.mod_eq_of_lt h)

end AisVerif.C16
