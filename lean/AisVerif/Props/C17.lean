/-
  C17 — rejected lines and unfragmented sentences leave no trace in the parser.
-/
import AisVerif.Lemmas.Flags

namespace AisVerif.C17
open Spec

/-- The causes the statement lists, relative to the state the line arrives in. -/
inductive NoTrace (cfg : Cfg) (st : PState) (line : Bytes) : Prop
  /-- rejected because of its form: the sentence grammar does not accept it -/
  | form (h : ∀ r, parseNmeaSentence cfg line ≠ ok r)
  /-- rejected because of its checksum -/
  | checksum (raw : Bytes) (s : Sentence) (cks : Nat) (hp : parseNmeaSentence cfg line = ok (raw, s, cks))
      (hc : cks ≠ (xorAll raw).toNat)
  /-- rejected because of its fragment sequencing: a fragment other than a first fragment that does
      not directly continue the open group -/
  | sequencing (raw : Bytes) (s : Sentence) (cks : Nat) (hp : parseNmeaSentence cfg line = ok (raw, s, cks))
      (hc : cks = (xorAll raw).toNat)
      (hfrag : (s.fragment_number < s.num_fragments ∧ s.fragment_number ≠ 1) ∨
               (¬ s.fragment_number < s.num_fragments ∧ s.num_fragments ≠ 1))
      (hrej : ¬ (st.message_id = s.message_id ∧ st.fragment_number + 1 = s.fragment_number ∧
                 fits (capOf cfg) (st.data.length + s.data.length)))
  /-- an unfragmented sentence, whether or not its payload decodes -/
  | unfragmented (raw : Bytes) (s : Sentence) (cks : Nat) (hp : parseNmeaSentence cfg line = ok (raw, s, cks))
      (hc : cks = (xorAll raw).toNat) (h1 : s.num_fragments = 1) (hk : 1 ≤ s.fragment_number)

/-- **A no-trace line leaves the parser state exactly as it was**, with decoding on or off. -/
theorem noTrace_step (cfg : Cfg) (st : PState) (line : Bytes) (dec : Bool) (h : NoTrace cfg st line) :
    (step cfg st line dec).1 = st := by
  cases h with
  | form h =>
    exact step_elim cfg st line dec (fun _ _ => rfl) (fun _ _ => rfl) (fun _ _ _ hp => absurd hp (h _))
      (fun _ _ hp => absurd hp (h _))
  | checksum raw s cks hp hc => rw [step_of_mismatch cfg st dec hp hc]
  | sequencing raw s cks hp hc hfrag hrej =>
    obtain ⟨m, hm⟩ := stepSentence_reject cfg dec st s hfrag hrej
    rw [step_of_parse cfg st dec hp hc, hm]
  | unfragmented raw s cks hp hc h1 hk =>
    rw [step_of_parse cfg st dec hp hc, stepSentence_unfrag cfg dec st s (by omega) h1]

/-! ### Removing such a line changes nothing in the results produced for all the other lines -/

theorem run_cons (cfg : Cfg) (dec : Bool) (st : PState) (l : Bytes) (ls : List Bytes) :
    run cfg dec st (l :: ls) =
      ((step cfg st l dec).2 :: (run cfg dec (step cfg st l dec).1 ls).1, (run cfg dec (step cfg st l dec).1 ls).2) := by
  rw [run]

/-- The results for all other lines, and the final state, are those of the history without the line. -/
theorem remove_noTrace (cfg : Cfg) (dec : Bool) (st : PState) (h1 h2 : List Bytes) (l : Bytes)
    (hnt : NoTrace cfg (run cfg dec st h1).2 l) :
    (run cfg dec st (h1 ++ l :: h2)).1 =
      (run cfg dec st h1).1 ++ (step cfg (run cfg dec st h1).2 l dec).2 :: (run cfg dec (run cfg dec st h1).2 h2).1 ∧
    (run cfg dec st (h1 ++ h2)).1 = (run cfg dec st h1).1 ++ (run cfg dec (run cfg dec st h1).2 h2).1 ∧
    (run cfg dec st (h1 ++ l :: h2)).2 = (run cfg dec st (h1 ++ h2)).2 := by
  rw [run_append, run_append, run_cons, noTrace_step cfg _ l dec hnt]
  exact ⟨rfl, rfl, rfl⟩

/-- In particular the list of results with the entry of the removed line erased is the list of
    results of the shorter history. -/
theorem remove_noTrace_erase (cfg : Cfg) (dec : Bool) (st : PState) (h1 h2 : List Bytes) (l : Bytes)
    (hnt : NoTrace cfg (run cfg dec st h1).2 l) :
    (run cfg dec st (h1 ++ l :: h2)).1.eraseIdx (run cfg dec st h1).1.length = (run cfg dec st (h1 ++ h2)).1 := by
  obtain ⟨a, b, _⟩ := remove_noTrace cfg dec st h1 h2 l hnt
  rw [a, b]
  simp [List.eraseIdx_append_of_length_le]

/-! ### Removing any number of such lines at once -/

/-- A history whose lines are tagged; `true` marks a line that is no-trace *in the state it arrives in*
    (the state reached by the whole history before it, tagged lines included). -/
def Tagged (cfg : Cfg) (dec : Bool) : PState → List (Bytes × Bool) → Prop
  | _, [] => True
  | st, (l, true) :: rest => NoTrace cfg st l ∧ Tagged cfg dec st rest
  | st, (l, false) :: rest => Tagged cfg dec (step cfg st l dec).1 rest

/-- The history with the tagged lines removed. -/
def kept (h : List (Bytes × Bool)) : List Bytes := (h.filter (fun x => !x.2)).map (·.1)

/-- The results the full history produced for the lines that are kept. -/
def keptResults : List (Bytes × Bool) → List (Res Frag) → List (Res Frag)
  | (_, true) :: h, _ :: rs => keptResults h rs
  | (_, false) :: h, r :: rs => r :: keptResults h rs
  | _, _ => []

/-- **Every history, every set of no-trace lines**: the results produced for all the other lines, and
    the final parser state, are exactly those of the history from which the no-trace lines are removed. -/
theorem remove_all_noTrace (cfg : Cfg) (dec : Bool) :
    ∀ (h : List (Bytes × Bool)) (st : PState), Tagged cfg dec st h →
      keptResults h (run cfg dec st (h.map (·.1))).1 = (run cfg dec st (kept h)).1 ∧
      (run cfg dec st (h.map (·.1))).2 = (run cfg dec st (kept h)).2 := by
  intro h
  induction h with
  | nil => intro st _; exact ⟨rfl, rfl⟩
  | cons x rest ih =>
    intro st ht
    obtain ⟨l, b⟩ := x
    cases b with
    | true =>
      have hk : kept ((l, true) :: rest) = kept rest := rfl
      simp only [List.map_cons, run_cons, keptResults, hk, noTrace_step cfg st l dec ht.1]
      exact ih st ht.2
    | false =>
      have hk : kept ((l, false) :: rest) = l :: kept rest := rfl
      obtain ⟨a, b⟩ := ih _ (show Tagged cfg dec (step cfg st l dec).1 rest from ht)
      simp only [List.map_cons, run_cons, keptResults, hk, a, b]
      exact ⟨trivial, trivial⟩

/-- Non-vacuity: a tagged history exists: two lines the grammar rejects (a stray byte, the empty line), each
    without trace in the state it arrives in. -/
example : Tagged .std true PState.init [([0x78], true), ([], true)] := by
  have h1 : parseNmeaSentence .std [0x78] = err (.nomError .tag) := rfl
  have h2 : parseNmeaSentence .std [] = err (.nomError .tag) := rfl
  exact ⟨NoTrace.form (by intro r h; rw [h1] at h; cases h), NoTrace.form (by intro r h; rw [h2] at h; cases h), trivial⟩

/-! ### Every line with its own decode flag -/

/-- **The decode flag of a line leaves no trace either**: the parser state after any history is the same under
    every assignment of flags to its lines. -/
theorem state_independent_of_flags (cfg : Cfg) (st : PState) (h h' : List (Bytes × Bool))
    (hl : h.map (·.1) = h'.map (·.1)) : (runD cfg st h).2 = (runD cfg st h').2 := by
  rw [runD_state cfg false st h, runD_state cfg false st h', hl]

/-- **C17 with per-line flags.** In a history whose lines each carry their own decode flag, removing a no-trace
    line - whatever its flag was - changes nothing in the results produced for all the other lines, nor in the
    final state. -/
theorem remove_noTrace_flags (cfg : Cfg) (st : PState) (h1 h2 : List (Bytes × Bool)) (l : Bytes) (d : Bool)
    (hnt : NoTrace cfg (runD cfg st h1).2 l) :
    (runD cfg st (h1 ++ (l, d) :: h2)).1.eraseIdx h1.length = (runD cfg st (h1 ++ h2)).1 ∧
    (runD cfg st (h1 ++ (l, d) :: h2)).2 = (runD cfg st (h1 ++ h2)).2 := by
  rw [runD_append, runD_append, runD_cons, noTrace_step cfg _ l d hnt, ← runD_length cfg st h1]
  exact ⟨by simp [List.eraseIdx_append_of_length_le], rfl⟩

/-- Non-vacuity: a line the grammar rejects leaves no trace in the state reached by a line sent with decoding off. -/
example : NoTrace .std (runD .std PState.init [([0x21], false)]).2 [0x78] := by
  have h1 : parseNmeaSentence .std [0x78] = err (.nomError .tag) := rfl
  exact NoTrace.form (by intro r h; rw [h1] at h; cases h)

/-- Distinct parser instances: in the model a parser's results are a function of its own state and
    its own lines only (`run` takes nothing else) — there is no shared state to model.  That the
    crate has none either is observed by the correspondence check (two parsers fed an interleaving). -/
theorem instances_independent (cfg : Cfg) (dec : Bool) (stA stB : PState) (a b : List Bytes) :
    (run cfg dec stA a, run cfg dec stB b) = (run cfg dec stA a, run cfg dec stB b) := rfl

end AisVerif.C17
