/-
  C18 — std, alloc and no-allocator builds are observationally equivalent.

  In the model the build configuration enters through `Cfg.isNoalloc` only, at six places
  (the crate's `cfg` branches): the 384-byte payload copy in `parse_ais_sentence`, the 384-byte
  reassembly buffer in `verify_and_extend_data`, the 384-byte output of `unarmor`, the 119-byte
  binary data of types 6/8/17, the 20-character text buffer, and `push_unwrap` on the type-15 lists
  (capacities 2 and 3, never reached: `pushUnwrap_small`, so `Spec.dispatch` does not mention it).  Hence:
    * std and alloc are the same function (`rfl`);
    * the no-alloc build computes the same result unless one of those capacities is exceeded, and
      then it returns an error value — never a panic, never a truncated value (`AgreeUnless`, proved of each
      function that takes a `Cfg` by following its definition; `StepAgreeUnless` adds the parser state).
-/
import AisVerif.Lemmas.Machine
import AisVerif.Lemmas.Decoded
import AisVerif.Lemmas.Unarmor

namespace AisVerif.C18
open Spec

theorem unarmor_alloc (data : Bytes) (fill : Nat) : unarmor .alloc data fill = unarmor .std data fill := rfl
theorem parseMessage_alloc (bs : Bytes) : parseMessage .alloc bs = parseMessage .std bs := by
  rw [parseMessage_eq, parseMessage_eq]; rfl
theorem parseNmea_alloc (line : Bytes) : parseNmeaSentence .alloc line = parseNmeaSentence .std line := rfl
theorem verify_alloc (st : PState) (s : Sentence) : verifyAndExtend .alloc st s = verifyAndExtend .std st s := rfl

theorem decodeInto_alloc (dec : Bool) (s : Sentence) : decodeInto .alloc dec s = decodeInto .std dec s := by
  simp only [decodeInto, unarmor_alloc, parseMessage_alloc]

/-- The alloc build is the std build, for every line, state and decode flag. -/
theorem step_alloc (st : PState) (line : Bytes) (dec : Bool) : step .alloc st line dec = step .std st line dec := by
  rcases step_congr (parseNmea_alloc line) st dec with h | ⟨raw, s, cks, -, h1, h2⟩
  · exact h
  · simp only [h1, h2, stepSentence_eq, verify_alloc, decodeInto_alloc]

/-- `a` is `b`, or `Q` holds and `a` is an error value: with `a` computed by the no-alloc build, `b` by the std
    build and `Q` saying which capacity is exceeded, what C18 claims of every function that takes a `Cfg`. -/
def AgreeUnless {α : Type} (Q : Prop) (a b : Res α) : Prop := a = b ∨ (Q ∧ ∃ e, a = err e)

theorem ite_rel {α : Type} {R : α → α → Prop} {c : Prop} [Decidable c] {a a' b b' : α}
    (ht : c → R a b) (he : ¬ c → R a' b') : R (if c then a else a') (if c then b else b') := by
  split
  · exact ht ‹c›
  · exact he ‹¬ c›

theorem AgreeUnless.refl {α : Type} {Q : Prop} {a : Res α} : AgreeUnless Q a a := .inl rfl

theorem AgreeUnless.mono {α : Type} {Q Q' : Prop} {a b : Res α} (h : AgreeUnless Q a b) (hq : Q → Q') :
    AgreeUnless Q' a b := h.imp_right (.imp_left hq)

/-- A capacity check: a test that only the first build makes, and answers with an error. -/
theorem AgreeUnless.ite_err {α : Type} {Q c c' : Prop} [Decidable c] [Decidable c'] {e : Err} {r : Res α}
    (hc : c → Q) (hc' : ¬ c') : AgreeUnless Q (if c then err e else r) (if c' then err e else r) := by
  rw [if_neg hc']
  split
  · exact .inr ⟨hc ‹c›, e, rfl⟩
  · exact .refl

/-- A test with the same answer in both builds: what follows it has to agree. -/
theorem AgreeUnless.ite_else {α : Type} {Q c : Prop} [Decidable c] {r a b : Res α} (h : AgreeUnless Q a b) :
    AgreeUnless Q (if c then r else a) (if c then r else b) := ite_rel (fun _ => .refl) fun _ => h

theorem AgreeUnless.bind {α β : Type} {Q : Prop} {a b : Res α} {f g : α → Res β} (h : AgreeUnless Q a b)
    (hf : ∀ x, b = ok x → AgreeUnless Q (f x) (g x)) : AgreeUnless Q (a >>= f) (b >>= g) := by
  rcases h with rfl | ⟨hq, e, rfl⟩
  · cases a with
    | ok x => exact hf x rfl
    | _ => exact .refl
  · exact .inr ⟨hq, e, rfl⟩

/-- The no-alloc capacity checks return error *values* (no panic, no truncated value): the
    over-long unarmor output. -/
theorem unarmor_noalloc_large (data : Bytes) (fill : Nat) (h : maxSentence < Spec.unarmorLen data.length) :
    unarmor .noalloc data fill = err (.text .unarmorTooLarge) :=
  unarmor_err_large .noalloc data fill ⟨rfl, h⟩

theorem unarmor_noalloc (data : Bytes) (fill : Nat) :
    AgreeUnless (maxSentence < Spec.unarmorLen data.length) (unarmor .noalloc data fill) (unarmor .std data fill) := by
  rw [unarmor_eq, unarmor_eq]
  exact .ite_err (·.2) fun h => Bool.noConfusion h.1

theorem capped_noalloc (c : Prop) [Decidable c] (n lim : Nat) (r : Res Msg) :
    AgreeUnless (lim < n) (if c then Spec.capped .noalloc n lim r else Spec.eof)
      (if c then Spec.capped .std n lim r else Spec.eof) := by
  rw [capped_eq, capped_eq]
  exact ite_rel (fun _ => .ite_err (·.2) fun h => Cfg.noConfusion h.1) fun _ => .refl

/-- The capacities of the no-alloc build that a decoded message can exceed: more than 119 bytes of
    binary data (types 6, 8, 17) or more than 20 characters of safety text (types 12, 14). -/
def ExceedsMsg (bs : Bytes) : Prop :=
  let t := field bs 0 6
  (t = 6 ∧ maxData < (bs.drop 11).length) ∨ (t = 8 ∧ maxData < (bs.drop 7).length) ∨
  (t = 17 ∧ maxData < (bs.drop 15).length) ∨ (t = 12 ∧ maxText < (8 * bs.length - 72) / 6) ∨
  (t = 14 ∧ maxText < (8 * bs.length - 40) / 6)

theorem dispatch_noalloc (t : Nat) (bs : Bytes) (ht : field bs 0 6 = t) :
    AgreeUnless (ExceedsMsg bs) (Spec.dispatch .noalloc t bs) (Spec.dispatch .std t bs) :=
  -- arm by arm, in the order of `Spec.dispatch`: five arms take the `Cfg`, none after type 17
  .ite_else <| .ite_else <| .ite_else <| .ite_else <|
  ite_rel (fun c6 => (capped_noalloc ..).mono fun h => .inl ⟨ht.trans c6, h⟩) fun _ =>
  ite_rel (fun c8 => (capped_noalloc ..).mono fun h => .inr (.inl ⟨ht.trans c8, h⟩)) fun _ =>
  .ite_else <| .ite_else <| .ite_else <|
  ite_rel (fun c12 => (capped_noalloc ..).mono fun h => .inr (.inr (.inr (.inl ⟨ht.trans c12, h⟩)))) fun _ =>
  .ite_else <|
  ite_rel (fun c14 => (capped_noalloc ..).mono fun h => .inr (.inr (.inr (.inr ⟨ht.trans c14, h⟩)))) fun _ =>
  .ite_else <| .ite_else <|
  ite_rel (fun c17 => (capped_noalloc ..).mono fun h => .inr (.inr (.inl ⟨ht.trans c17, h⟩))) fun _ => .refl

theorem parseMessage_noalloc (bs : Bytes) :
    AgreeUnless (ExceedsMsg bs) (parseMessage .noalloc bs) (parseMessage .std bs) := by
  rw [parseMessage_eq, parseMessage_eq]
  exact ite_rel (fun _ => dispatch_noalloc _ bs rfl) fun _ => .refl

/-- Decoding exceeds a no-alloc capacity: the unarmored output, or a message buffer. -/
def DecodeExceeds (s : Sentence) : Prop :=
  maxSentence < Spec.unarmorLen s.data.length ∨ ∃ u, unarmor .std s.data s.fill_bit_count = ok u ∧ ExceedsMsg u

theorem decodeInto_noalloc (dec : Bool) (s : Sentence) :
    AgreeUnless (DecodeExceeds s) (decodeInto .noalloc dec s) (decodeInto .std dec s) :=
  ite_rel (fun _ => ((unarmor_noalloc ..).mono .inl).bind fun u hu =>
    ((parseMessage_noalloc u).mono fun h => .inr ⟨u, hu, h⟩).bind fun _ _ => .refl) fun _ => .refl

/-- The payload copy of `parse_ais_sentence`: an error value if the payload field is longer than 384 bytes. -/
theorem parseAis_noalloc (i : Bytes) :
    AgreeUnless (∃ rest s, parseAisSentence .std i = ok (rest, s) ∧ maxSentence < s.data.length)
      (parseAisSentence .noalloc i) (parseAisSentence .std i) := by
  refine .bind .refl fun (rest, s) h => .ite_err (fun hl => ⟨rest, s, ?_, of_decide_eq_true hl⟩) nofun
  rw [parseAisSentence, h]; rfl

/-- The body of the line (up to the first '*') parses as AIS fields whose payload is longer than 384 bytes. -/
def LongPayload (line : Bytes) : Prop :=
  ∃ r1 r2 r3 rest s, opt tagBlock line = ok r1 ∧ delimiter r1.1 = ok r2 ∧ takeUntil 0x2A r2.1 = ok r3 ∧
    parseAisSentence .std r3.2 = ok (rest, s) ∧ maxSentence < s.data.length

theorem parseNmea_noalloc (line : Bytes) :
    AgreeUnless (LongPayload line) (parseNmeaSentence .noalloc line) (parseNmeaSentence .std line) :=
  .bind .refl fun r1 h1 => .bind .refl fun r2 h2 => .bind .refl fun r3 h3 =>
    ((parseAis_noalloc r3.2).mono fun ⟨rest, s, hs, hl⟩ => ⟨r1, r2, r3, rest, s, h1, h2, h3, hs, hl⟩).bind
      fun _ _ => .refl

/-- `AgreeUnless` for a step of the parser out of the state `st`: in the exceptional case the state the no-alloc
    build leaves is `st` still, or the one the std build leaves. -/
def StepAgreeUnless {α : Type} (Q : Prop) (st : PState) (a b : PState × Res α) : Prop :=
  a = b ∨ ((∃ e, a.2 = err e) ∧ (a.1 = st ∨ a.1 = b.1) ∧ Q)

/-- The reassembly buffer: identical unless the accumulated payload would exceed 384 bytes; then
    an error and the parser state is left exactly as it was (nothing is appended, the fragment
    counter is not advanced — the D5 fix). -/
theorem verify_noalloc (st : PState) (s : Sentence) :
    verifyAndExtend .noalloc st s = verifyAndExtend .std st s ∨
      (maxSentence < st.data.length + s.data.length ∧ ∃ m, verifyAndExtend .noalloc st s = (st, err (.text m))) := by
  by_cases h : maxSentence < st.data.length + s.data.length
  · exact .inr ⟨h, verifyAndExtend_reject .noalloc st s fun hc => Nat.not_le.mpr h hc.2.2⟩
  · left; unfold verifyAndExtend; rw [decide_eq_false h]; rfl

theorem StepAgreeUnless.refl {α : Type} {Q : Prop} {st : PState} {a : PState × Res α} :
    StepAgreeUnless Q st a a := .inl rfl

/-- A step that leaves the same state in both builds whatever it computes. -/
theorem StepAgreeUnless.of_res {α β : Type} {Q : Prop} {a b : Res α} (h : AgreeUnless Q a b) (st st' : PState)
    (f : α → β) : StepAgreeUnless Q st (st', a.map f) (st', b.map f) := by
  rcases h with rfl | ⟨hq, e, rfl⟩
  · exact .refl
  · exact .inr ⟨⟨e, rfl⟩, .inr rfl, hq⟩

/-- A step that begins with `verify_and_extend_data` on its own state. -/
theorem StepAgreeUnless.afterVerify {Q : Prop} (st : PState) (s : Sentence) {k k' : PState → PState × Res Frag}
    (hq : maxSentence < st.data.length + s.data.length → Q)
    (hk : ∀ st2, st2.data = st.data ++ s.data → StepAgreeUnless Q st (k st2) (k' st2)) :
    StepAgreeUnless Q st (afterVerify (verifyAndExtend .noalloc st s) k) (afterVerify (verifyAndExtend .std st s) k') := by
  rcases verify_noalloc st s with h | ⟨hl, m, h⟩
  · rw [h]
    by_cases hc : Continues .std st s
    · rw [verifyAndExtend_accept .std st s hc]; exact hk _ rfl
    · obtain ⟨m, hm⟩ := verifyAndExtend_reject .std st s hc
      rw [hm]; exact .refl
  · rw [h]; exact .inr ⟨⟨_, rfl⟩, .inl rfl, hq hl⟩

/-- What exceeding a capacity means for one sentence in a given state. -/
def ExceedsSentence (st : PState) (s : Sentence) : Prop :=
  maxSentence < st.data.length + s.data.length ∨ DecodeExceeds s ∨
    DecodeExceeds { s with data := st.data ++ s.data }

theorem stepSentence_noalloc (st : PState) (s : Sentence) (dec : Bool) (hfit : s.data.length ≤ maxSentence) :
    StepAgreeUnless (ExceedsSentence st s) st (stepSentence .noalloc st s dec) (stepSentence .std st s dec) := by
  rw [stepSentence_eq, stepSentence_eq]
  refine ite_rel (fun _ => ?_) fun _ => ite_rel (fun _ => ?_) fun _ => ?_
  · by_cases h1 : s.fragment_number = 1
    · -- a first fragment goes into an empty buffer, where it fits
      rw [if_pos h1, (verify_noalloc _ s).resolve_right fun h => Nat.not_lt.mpr hfit (by simpa using h.1)]
      exact .refl
    · rw [if_neg h1]; exact .afterVerify st s .inl fun _ _ => .refl
  · exact .afterVerify st s .inl fun st2 h => .of_res ((decodeInto_noalloc dec _).mono fun hx => .inr (.inr (h ▸ hx))) ..
  · exact .of_res ((decodeInto_noalloc dec s).mono fun hx => .inr (.inl hx)) ..

/-- **C18 for `AisParser::parse`.**  For every state, line and decode flag the no-alloc build gives
    the result and next state of the std build, unless a fixed capacity is exceeded — the payload
    field (384), the reassembled payload (384), the unarmored output (384), binary data (119) or
    text (20) — in which case it returns an error value (not a panic, not a shorter value) and its
    state is either untouched or equal to the std build's. -/
theorem step_noalloc (st : PState) (line : Bytes) (dec : Bool) :
    step .noalloc st line dec = step .std st line dec ∨
      ((∃ e, (step .noalloc st line dec).2 = err e) ∧
       ((step .noalloc st line dec).1 = st ∨ (step .noalloc st line dec).1 = (step .std st line dec).1) ∧
       (LongPayload line ∨ ∃ raw s cks, parseNmeaSentence .std line = ok (raw, s, cks) ∧ ExceedsSentence st s)) := by
  rcases parseNmea_noalloc line with hp | ⟨hlong, e, he⟩
  · rcases step_congr hp st dec with h | ⟨raw, s, cks, hstd, h1, h2⟩
    · exact .inl h
    · rw [h1, h2]
      exact (stepSentence_noalloc st s dec (parsed_fits (cfg := .noalloc) (hp.trans hstd))).imp_right
        fun ⟨he, hst, hx⟩ => ⟨he, hst, .inr ⟨raw, s, cks, hstd, hx⟩⟩
  · rw [step_of_err .noalloc st dec he]
    exact .inr ⟨⟨_, rfl⟩, .inl rfl, .inl hlong⟩

/-- **In the std and alloc builds a fragment that continues the open group is appended whatever the lengths are**:
    there is no size at which reassembly starts to refuse (or truncate) - 384 bytes, 64 KiB or more.  (DESIGN.md
    §11.5e: the seeded changes that give the alloc build a 64 KiB ceiling or a bounded reserve make this false of the code.) -/
theorem no_ceiling (cfg : Cfg) (hc : cfg = .std ∨ cfg = .alloc) (st : PState) (s : Sentence)
    (hid : st.message_id = s.message_id) (hfn : st.fragment_number + 1 = s.fragment_number) :
    verifyAndExtend cfg st s = ({ st with data := st.data ++ s.data, fragment_number := s.fragment_number }, ok ()) := by
  refine verifyAndExtend_accept cfg st s ⟨hid, hfn, ?_⟩
  rcases hc with rfl | rfl <;> trivial

/-- Non-vacuity: a state holding 70 000 bytes accepts the next fragment in the alloc build. -/
example : (verifyAndExtend .alloc ⟨some 1, 1, List.replicate 70000 0x30⟩
    { (default : Sentence) with message_id := some 1, fragment_number := 2, data := [0x31] }).2 = ok () := by
  rw [no_ceiling .alloc (Or.inr rfl) _ _ rfl rfl]

end AisVerif.C18
