/-
  C19 — the sentence-level message type equals the payload's 6-bit type.

  This is FALSE of the crate (finding D10): `parse_ais_sentence` applies `message_type` to the
  *armored* payload, so the reported value is `first_byte >> 2`.  Proved here: exactly what it
  reports (`sentence_type_partial`), that this agrees with the specified value for two
  characters of the alphabet only (`agrees_only_at`), and a concrete counterexample.
-/
import AisVerif.Props.C07

namespace AisVerif.C19
open Spec

/-- The 6-bit value of an armoring character (the specified message type of a payload starting with it). -/
def sixbit (c : UInt8) : Option Nat :=
  if 48 ≤ c ∧ c ≤ 87 then some (c.toNat - 48) else if 96 ≤ c ∧ c ≤ 119 then some (c.toNat - 56) else none

/-- **What the crate reports**: the first payload byte shifted right by two. -/
theorem sentence_type_partial (cfg : Cfg) (line raw : Bytes) (s : Sentence) (cks : Nat)
    (h : parseNmeaSentence cfg line = ok (raw, s, cks)) :
    ∃ b l, s.data = b :: l ∧ s.message_type = b.toNat / 4 := by
  obtain ⟨body, hwf, _, hs⟩ := C07.sentence_reports_body cfg line raw s cks h
  subst hs
  cases hp : body.payload with
  | nil => exact absurd hp hwf.payload.2
  | cons b l =>
    refine ⟨b, l, hp, ?_⟩
    show field body.payload 0 6 = _
    rw [hp, field_byte b l 0 6 (by decide)]
    exact Nat.mod_eq_of_lt (Nat.div_lt_of_lt_mul b.toNat_lt)

/-- Over the whole armoring alphabet, `byte >> 2` equals the 6-bit value for '?' (15) and '@' (16) only. -/
theorem agrees_only_at : ∀ c : Fin 256, sixbit (UInt8.ofNat c.val) ≠ none →
    (some (c.val / 4) = sixbit (UInt8.ofNat c.val) ↔ (c.val = 0x3F ∨ c.val = 0x40)) := by
  decide +kernel

/-- **Counterexample** (finding D10), in numbers: the character '1' stands for message type 1, and `'1' >> 2` is 12,
    which is what the crate then reports (`sentence_type_partial`). -/
theorem c19_counterexample : sixbit 0x31 = some 1 ∧ (0x31 : UInt8).toNat / 4 = 12 := by decide

theorem sixbit_lt_byte (c : UInt8) : (sixbit c).all (· < 64) = true := by
  unfold sixbit
  split
  · next h => have : c.toNat ≤ 87 := UInt8.le_iff_toNat_le.mp h.2; simp only [Option.all_some, decide_eq_true_eq]; omega
  · split
    · next h => have : c.toNat ≤ 119 := UInt8.le_iff_toNat_le.mp h.2; simp only [Option.all_some, decide_eq_true_eq]; omega
    · rfl

theorem sixbit_lt : ∀ c : Fin 256, (sixbit (UInt8.ofNat c.val)).all (· < 64) = true := fun _ => sixbit_lt_byte _

end AisVerif.C19
