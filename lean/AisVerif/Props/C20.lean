/-
  C20 — the command-line tool survives any input stream.

  The model of the tool (Model/Cli.lean) is a fold of the proved `step` function over the records
  of `BufRead::split(b'\n')`.  Proved: it reaches end of input with exit status success for every
  byte stream; it writes exactly one record per line that completes a message (stdout) or is
  rejected (stderr), none for incomplete fragments, in input order; a line's content affects other
  lines' records only through the parser state (so no-trace lines, C17, affect nothing else).
  Not provable here (process level, compared by the correspondence check against the real
  binary): Rust's `Debug` text of the records, pipes, the numeric exit code.
-/
import AisVerif.Model.Cli
import AisVerif.Props.C01
import AisVerif.Props.C17

namespace AisVerif.C20

/-- Records never contain the separator. -/
theorem split_no_newline : ∀ (n : Nat) (bs : Bytes), bs.length ≤ n → ∀ l ∈ splitNewline bs, (0x0A : UInt8) ∉ l := by
  intro n bs hn
  clear hn n
  fun_induction splitNewline bs with
  | case1 => nofun
  | case2 bs _ h => intro l hl; rw [List.mem_singleton.mp hl]; exact not_mem_takeWhile_ne 0x0A bs
  | case3 bs _ _ rest h ih =>
    intro l hl
    rcases List.mem_cons.mp hl with rfl | hl
    · exact not_mem_takeWhile_ne 0x0A bs
    · exact ih l hl

/-- The record (if any) a line produces, from the parser's result for that line. -/
def recordOf (line : Bytes) : Res Frag → Option Record
  | ok (.complete s) => some (.stdout line s.message)
  | ok (.incomplete _) => none
  | err e => some (.stderr line e)
  | panic _ => none

theorem cliLine_eq (st : PState) (l : Bytes) :
    cliLine st l = ((step .std st l true).1, recordOf l (step .std st l true).2, false) := by
  have hnp := C01.step_total .std st l true
  unfold cliLine
  generalize step .std st l true = r at hnp ⊢
  obtain ⟨st', res⟩ := r
  cases res with
  | ok f => cases f <;> rfl
  | err e => rfl
  | panic p => exact absurd rfl (hnp p)

theorem cliLoop_cons (st : PState) (l : Bytes) (ls : List Bytes) :
    cliLoop st (l :: ls) =
      ((recordOf l (step .std st l true).2).toList ++ (cliLoop (step .std st l true).1 ls).1,
       (cliLoop (step .std st l true).1 ls).2) := by
  rw [cliLoop, cliLine_eq]

/-- **The tool processes any byte stream to the end and exits successfully.** -/
theorem cli_total : ∀ (lines : List Bytes) (st : PState), (cliLoop st lines).2 = .success := by
  intro lines
  induction lines with
  | nil => intro st; rfl
  | cons l ls ih => intro st; rw [cliLoop_cons]; exact ih _

theorem cliRun_success (stdin : Bytes) : (cliRun stdin).2 = .success := cli_total _ _

/-- **Records are exactly the per-line outcomes, in input order**: the output is the list of
    `recordOf line (parser result for line)` over the lines, in order, with the `none`s dropped —
    one record per Complete (stdout) or rejected (stderr) line, nothing for Incomplete. -/
theorem cli_records : ∀ (lines : List Bytes) (st : PState),
    (cliLoop st lines).1 =
      ((lines.zip (run .std true st lines).1).filterMap fun (l, r) => recordOf l r) := by
  intro lines
  induction lines with
  | nil => intro st; rfl
  | cons l ls ih =>
    intro st
    rw [cliLoop_cons]
    simp only [run, List.zip_cons_cons, List.filterMap_cons]
    rw [ih]
    cases recordOf l (step .std st l true).2 <;> rfl

theorem cliLoop_append (st : PState) (a b : List Bytes) :
    (cliLoop st (a ++ b)).1 = (cliLoop st a).1 ++ (cliLoop (run .std true st a).2 b).1 := by
  induction a generalizing st with
  | nil => rfl
  | cons l t ih => simp only [List.cons_append, cliLoop_cons, C17.run_cons, ih, List.append_assoc]

/-- **No line content affects the handling of any other line** beyond the parser's reassembly
    state: a line that leaves no trace (malformed, bad checksum, out of sequence, unfragmented —
    C17) can be removed without changing any other line's record. -/
theorem cli_line_local (st : PState) (h1 h2 : List Bytes) (l : Bytes)
    (hnt : C17.NoTrace .std (run .std true st h1).2 l) :
    (cliLoop st (h1 ++ l :: h2)).1 =
      (cliLoop st h1).1 ++ (recordOf l (step .std (run .std true st h1).2 l true).2).toList ++
        (cliLoop (run .std true st h1).2 h2).1 ∧
    (cliLoop st (h1 ++ h2)).1 = (cliLoop st h1).1 ++ (cliLoop (run .std true st h1).2 h2).1 := by
  rw [cliLoop_append, cliLoop_append, cliLoop_cons, C17.noTrace_step .std _ l true hnt, List.append_assoc]
  exact ⟨rfl, rfl⟩

theorem split_nil : splitNewline [] = [] := by rw [splitNewline]; simp

/-! ### A line is what stands between two line feeds, however long -/

/-- **The first record of a stream is everything before its first line feed - whatever its length and
    content - and the rest of the stream is split on its own.**  No block size, no length limit, no byte with a
    special meaning besides the line feed enters. -/
theorem split_cons (l rest : Bytes) (h : (0x0A : UInt8) ∉ l) :
    splitNewline (l ++ 0x0A :: rest) = l :: splitNewline rest := by
  obtain ⟨a, b⟩ := span_iff (r := 0x0A :: rest).mpr ⟨rfl, bne_of_not_mem h, fun _ hx => by cases hx; rfl⟩
  rw [splitNewline, if_neg (List.append_ne_nil_of_right_ne_nil _ (List.cons_ne_nil _ _))]
  split
  · next hd => rw [b] at hd; cases hd
  · next x r hd =>
    rw [b] at hd
    cases hd
    rw [a]

/-- A last line without a line feed is a record too. -/
theorem split_last (l : Bytes) (hne : l ≠ []) (h : (0x0A : UInt8) ∉ l) : splitNewline l = [l] := by
  obtain ⟨ht, hd⟩ := span_iff.mpr ⟨(List.append_nil l).symm, bne_of_not_mem h, nofun⟩
  rw [splitNewline, if_neg hne]
  split
  · rw [ht]
  · next hd' => rw [hd] at hd'; cases hd'

/-- **Every stream of lines**: feeding `l₁ \n l₂ \n … lₙ \n` gives the tool exactly the records `l₁ … lₙ`,
    for lines of any length (none of them containing a line feed). -/
theorem split_lines : ∀ (lines : List Bytes), (∀ l ∈ lines, (0x0A : UInt8) ∉ l) →
    splitNewline (lines.flatMap (fun l => l ++ [0x0A])) = lines := by
  intro lines
  induction lines with
  | nil => intro _; exact split_nil
  | cons l t ih =>
    intro h
    simp only [List.flatMap_cons, List.append_assoc, List.singleton_append]
    rw [split_cons l _ (h l List.mem_cons_self), ih fun x hx => h x (List.mem_cons_of_mem _ hx)]

/-- Non-vacuity: the empty input has no records and the tool exits successfully on it. -/
example : cliRun [] = ([], .success) := by unfold cliRun; rw [split_nil]; rfl

end AisVerif.C20
