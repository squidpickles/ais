/-
  Refinement of the fixed-length parsers of `Model/MsgA.lean` to the specification decoders:
  `parseTxx bs = ok (Spec.decodeTxx bs)` when the payload is long enough, `Eof` otherwise (types 1-3, 4/11 and 9 with
  their communication state: `Spec.specT01`, `specBase`, `specT09`).
-/
import AisVerif.Model.MsgA
import AisVerif.Lemmas.Radio
import AisVerif.Lemmas.Text
import AisVerif.Lemmas.Spare10

namespace AisVerif
open Spec

theorem parseT01_eq (bs : List UInt8) : parseT01 bs = Spec.specT01 bs := by
  unfold parseT01
  simp only [ais_take, ↓parseRadio_bind]
  rfl

theorem parseBaseStation_eq (kind : Kind) (bs : List UInt8) : parseBaseStation kind bs = Spec.specBase kind bs := by
  unfold parseBaseStation
  simp only [ais_take, ↓parseRadio_bind]
  rfl

theorem parseT09_eq (bs : List UInt8) : parseT09 bs = Spec.specT09 bs := by
  unfold parseT09
  simp only [ais_take, ↓parseRadio_bind]
  rfl

theorem parseT10_eq (bs : List UInt8) :
    parseT10 bs = if 72 ≤ 8 * bs.length then ok (Spec.decodeT10 bs) else err (.nomError .eof) := by
  unfold parseT10
  simp only [ais_take]
  rfl

theorem selectRadio_bind {β : Type} {s : Nat} (hs : s < 2) (bs : List UInt8) (p : Nat)
    (f : List (Key × Val) × Cur → Res β) :
    (selectRadio s ⟨bs, p⟩ >>= f) =
      if p + 19 ≤ 8 * bs.length then
        f (if s = 0 then Spec.sotdma (field bs p 19) else Spec.itdma (field bs p 19), ⟨bs, p + 19⟩)
      else err (.nomError .eof) :=
  match s, hs with
  | 0, _ => bind_of_spec f (parseSotdma_spec bs p)
  | 1, _ => bind_of_spec f (parseItdma_spec bs p)

theorem parseT18_eq (bs : List UInt8) :
    parseT18 bs = if 168 ≤ 8 * bs.length then ok (Spec.decodeT18 bs) else err (.nomError .eof) := by
  unfold parseT18
  simp only [ais_take, ↓selectRadio_bind (field_lt bs 148 1)]
  rfl

theorem parseT19_eq (cfg : Cfg) (bs : List UInt8) :
    parseT19 cfg bs = if 312 ≤ 8 * bs.length then ok (Spec.decodeT19 bs) else err (.nomError .eof) := by
  unfold parseT19
  simp only [ais_take]
  rfl

theorem parseT21_eq (cfg : Cfg) (bs : List UInt8) :
    parseT21 cfg bs = if 272 ≤ 8 * bs.length then ok (Spec.decodeT21 bs) else err (.nomError .eof) := by
  unfold parseT21
  simp only [ais_take]
  rfl

theorem parseT27_eq (bs : List UInt8) :
    parseT27 bs = if 95 ≤ 8 * bs.length then ok (Spec.decodeT27 bs) else err (.nomError .eof) := by
  unfold parseT27
  simp only [ais_take]
  rfl

end AisVerif
