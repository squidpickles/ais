/-
  Refinement of the variable-length parsers of `Model/MsgB.lean` to the decoders of `Spec/DecodeB.lean`
  (types 6, 8, 17; 12, 14; 16; 7, 13, 20; 24, 5; 15).
-/
import AisVerif.Lemmas.Text
import AisVerif.Lemmas.Many
import AisVerif.Spec.Decode

namespace AisVerif
open Spec

theorem ownRest_bind {β : Type} (cfg : Cfg) (bs : List UInt8) (p : Nat) (f : List UInt8 → Res β) :
    (ownRest cfg ⟨bs, p⟩ >>= f) =
      if cfg.isNoalloc && decide (maxData < (bs.drop (p / 8)).length) then err (.nomFailure .tooLarge)
      else f (bs.drop (p / 8)) := by
  unfold ownRest Cur.rest
  split <;> rfl

theorem parseT06_eq (cfg : Cfg) (bs : List UInt8) :
    parseT06 cfg bs =
      if 88 ≤ 8 * bs.length then
        (if cfg.isNoalloc && decide (maxData < (bs.drop 11).length) then err (.nomFailure .tooLarge)
         else ok (Spec.decodeT06 bs))
      else err (.nomError .eof) := by
  unfold parseT06
  simp only [ais_take, ↓ownRest_bind]
  rfl

theorem parseT08_eq (cfg : Cfg) (bs : List UInt8) :
    parseT08 cfg bs =
      if 56 ≤ 8 * bs.length then
        (if cfg.isNoalloc && decide (maxData < (bs.drop 7).length) then err (.nomFailure .tooLarge)
         else ok (Spec.decodeT08 bs))
      else err (.nomError .eof) := by
  unfold parseT08
  simp only [ais_take, ↓ownRest_bind]
  rfl

theorem parseT17_eq (cfg : Cfg) (bs : List UInt8) :
    parseT17 cfg bs =
      if 120 ≤ 8 * bs.length then
        (if cfg.isNoalloc && decide (maxData < (bs.drop 15).length) then err (.nomFailure .tooLarge)
         else ok (Spec.decodeT17 bs))
      else err (.nomError .eof) := by
  unfold parseT17
  simp only [ais_take, ↓ownRest_bind]
  rfl

theorem parseT12_eq (cfg : Cfg) (bs : List UInt8) :
    parseT12 cfg bs =
      if 78 ≤ 8 * bs.length then
        (if cfg.isNoalloc && decide (maxText < (8 * bs.length - 72) / 6) then err (.nomFailure .tooLarge)
         else ok (Spec.decodeT12 bs))
      else err (.nomError .eof) := by
  unfold parseT12
  simp only [ais_take, Cur.remaining_mk, sub_lt_iff, ite_not]
  refine ite_congr rfl (fun _ => ?_) (fun _ => rfl)
  rw [parse6bitAscii_of_fits cfg bs 72 _ (Nat.le_refl _)]
  split <;> rfl

theorem parseT14_eq (cfg : Cfg) (bs : List UInt8) :
    parseT14 cfg bs =
      if 46 ≤ 8 * bs.length then
        (if cfg.isNoalloc && decide (maxText < (8 * bs.length - 40) / 6) then err (.nomFailure .tooLarge)
         else ok (Spec.decodeT14 bs))
      else err (.nomError .eof) := by
  unfold parseT14
  simp only [ais_take, Cur.remaining_mk, sub_lt_iff, ite_not]
  refine ite_congr rfl (fun _ => ?_) (fun _ => rfl)
  rw [parse6bitAscii_of_fits cfg bs 40 _ (Nat.le_refl _)]
  split <;> rfl

theorem parseT16_eq (bs : List UInt8) :
    parseT16 bs =
      if 92 ≤ 8 * bs.length then ok (Spec.decodeT16 bs (decide (144 ≤ 8 * bs.length)))
      else err (.nomError .eof) := by
  unfold parseT16
  simp only [ais_take, Cur.remaining_mk, le_sub_iff]
  by_cases h : 144 ≤ 8 * bs.length <;> simp only [h] <;> rfl

theorem parseAck_spec (bs : List UInt8) (q : Nat) :
    parseAck ⟨bs, q⟩ = if q + 32 ≤ 8 * bs.length then ok (Spec.ackAt bs q, ⟨bs, q + 32⟩) else err (.nomError .eof) := by
  unfold parseAck
  simp only [ais_take]
  rfl

theorem parseAckMsg_eq (kind : Kind) (bs : List UInt8) :
    parseAckMsg kind bs =
      if 72 ≤ 8 * bs.length then ok (Spec.decodeAcks kind bs) else err (.nomError .eof) := by
  unfold parseAckMsg
  simp only [ais_take, ↓fun f => bind_of_spec f (manyMN_1_4_eq (parseAck_spec bs) (by decide) 40)]
  rfl

theorem parseReservation_spec (bs : List UInt8) (q : Nat) :
    parseReservation ⟨bs, q⟩ =
      if q + 30 ≤ 8 * bs.length then ok (Spec.reservationAt bs q, ⟨bs, q + 30⟩) else err (.nomError .eof) := by
  unfold parseReservation
  simp only [ais_take]
  rfl

theorem parseT20_eq (bs : List UInt8) :
    parseT20 bs = if 70 ≤ 8 * bs.length then ok (Spec.decodeT20 bs) else err (.nomError .eof) := by
  unfold parseT20
  simp only [ais_take, ↓fun f => bind_of_spec f (manyMN_1_4_eq (parseReservation_spec bs) (by decide) 40)]
  rfl

theorem parseT24_eq (cfg : Cfg) (bs : List UInt8) :
    parseT24 cfg bs =
      if 40 ≤ 8 * bs.length then
        (if field bs 38 2 = 0 then (if 160 ≤ 8 * bs.length then ok (Spec.decodeT24A bs) else err (.nomError .eof))
         else if field bs 38 2 = 1 then (if 168 ≤ 8 * bs.length then ok (Spec.decodeT24B bs) else err (.nomError .eof))
         else ok (Spec.decodeT24U bs))
      else err (.nomError .eof) := by
  unfold parseT24 Spec.decodeT24U
  simp only [ais_take]
  refine ite_congr rfl (fun _ => ?_) (fun _ => rfl)
  have hlt := field_lt bs 38 2
  generalize field bs 38 2 = part at hlt ⊢
  match part, hlt with
  | 0, _ =>
    simp only [parseT24Part, ais_take, Cur.remaining_mk, if_true]
    refine ite_congr rfl (fun h160 => ?_) (fun _ => rfl)
    rw [take_of_fits (W := 8) (n := min (8 * bs.length - 160) 7) bs 160 (Nat.le_trans (Nat.min_le_right ..) (by decide))
      (Nat.add_le_of_le_sub' h160 (Nat.min_le_left ..))]
    rfl
  | 1, _ => simp only [parseT24Part, ais_take]; rfl
  | 2, _ | 3, _ => rfl

theorem t5DestChars_eq (bs : List UInt8) : Spec.t5DestChars bs = min 20 ((8 * bs.length - 302) / 6) :=
  min_mul_div 20 _ 6 (by decide)

theorem parseT05_eq (cfg : Cfg) (bs : List UInt8) :
    parseT05 cfg bs = if 302 ≤ 8 * bs.length then ok (Spec.decodeT05 bs) else err (.nomError .eof) := by
  unfold parseT05
  simp only [ais_take, Cur.remaining_mk]
  refine ite_congr rfl (fun _ => ?_) (fun _ => rfl)
  have hcap : ¬ maxText < min 120 (8 * bs.length - 302) / 6 :=
    Nat.not_lt.2 (Nat.le_trans (Nat.le_of_eq (t5DestChars_eq bs)) (Nat.min_le_left ..))
  rw [parse6bitAscii_of_fits cfg bs 302 _ (Nat.min_le_right ..), if_neg (by simp [hcap])]
  simp only [Spec.decodeT05, Spec.t5DestChars]
  -- a bit is left after the destination: the crate reads it as the DTE (finding D12), and one more if there is one
  by_cases h1 : 302 + 6 * (min 120 (8 * bs.length - 302) / 6) < 8 * bs.length
  · simp only [h1, if_true, take_of_fits (W := 8) (n := 1) bs _ (by decide) h1, Res.ok_bind, Dte_from_bind,
      Cur.remaining_mk, Nat.sub_pos_iff_lt]
    split
    · rw [take_of_fits (W := 8) (n := 1) bs _ (by decide) ‹_›]; rfl
    · rfl
  · simp only [h1, if_false, Res.ok_bind, Cur.remaining_mk, Nat.sub_pos_iff_lt]; rfl

theorem parseInterrogationMessage_spec (bs : List UInt8) (q : Nat) :
    parseInterrogationMessage ⟨bs, q⟩ =
      if q + 6 ≤ 8 * bs.length then ok ((Spec.interMsg bs q).1, ⟨bs, (Spec.interMsg bs q).2⟩)
      else err (.nomError .eof) := by
  unfold parseInterrogationMessage Spec.interMsg
  simp only [ais_take, Cur.remaining_mk, le_sub_iff]
  refine ite_congr rfl (fun _ => ?_) (fun _ => rfl)
  split <;> rfl

theorem pushUnwrap_small {α : Type} (cfg : Cfg) (cap : Nat) (l : List α) (x : α) (h : l.length < cap) :
    pushUnwrap cfg cap l x = ok (l ++ [x]) := by
  rw [pushUnwrap, decide_eq_false (Nat.not_le_of_lt h), Bool.and_false]; rfl

theorem parseSecondRequest_spec (cfg : Cfg) (bs : List UInt8) (m1 : List (Key × Val)) (p : Nat) :
    parseSecondRequest cfg [m1] ⟨bs, p⟩ =
      if 8 * bs.length - p ≥ 8 then
        ok (if (Spec.interMsg bs (p + 2)).1 ≠ Spec.emptyRequest then [m1, (Spec.interMsg bs (p + 2)).1] else [m1],
            ⟨bs, (Spec.interMsg bs (p + 2)).2⟩)
      else ok ([m1], ⟨bs, p⟩) := by
  unfold parseSecondRequest Spec.emptyRequest
  refine ite_congr rfl (fun h8 => ?_) (fun _ => rfl)
  simp only [ais_take, ↓fun f => bind_of_spec f (parseInterrogationMessage_spec bs (p + 2))]
  rw [if_pos ((le_sub_iff (by decide)).1 h8), pushUnwrap_small cfg 3 [m1] _ (by simp)]
  split <;> rfl

/-- A station whose first 36 bits (MMSI, first request type) are present never fails. -/
theorem parseStation_spec (cfg : Cfg) (bs : List UInt8) (q : Nat) :
    parseStation cfg ⟨bs, q⟩ =
      if q + 36 ≤ 8 * bs.length then ok ((Spec.station bs q).1, ⟨bs, (Spec.station bs q).2⟩)
      else err (.nomError .eof) := by
  unfold parseStation
  simp only [ais_take, ↓fun f => bind_of_spec f (parseInterrogationMessage_spec bs (q + 30))]
  refine ite_congr rfl (fun _ => ?_) (fun _ => rfl)
  rw [pushUnwrap_small cfg 3 [] _ (by simp)]
  simp only [Res.ok_bind, List.nil_append, parseSecondRequest_spec]
  unfold Spec.station
  by_cases h8 : 8 * bs.length - (Spec.interMsg bs (q + 30)).2 ≥ 8 <;> simp only [h8, if_true, if_false, Res.ok_bind] <;> rfl

theorem parseSecondStation_spec (cfg : Cfg) (bs : List UInt8) (s1 : List (Key × Val)) (p : Nat) :
    parseSecondStation cfg [s1] ⟨bs, p⟩ =
      if 8 * bs.length - p ≥ 30 then
        (if p + 38 ≤ 8 * bs.length then ok [s1, (Spec.station bs (p + 2)).1] else err (.nomError .eof))
      else ok [s1] := by
  unfold parseSecondStation
  refine ite_congr rfl (fun _ => ?_) (fun _ => rfl)
  simp only [ais_take, ↓fun f => bind_of_spec f (parseStation_spec cfg bs (p + 2))]
  rw [pushUnwrap_small cfg 2 [s1] _ (by simp)]
  rfl

theorem parseT15_eq (cfg : Cfg) (bs : List UInt8) :
    parseT15 cfg bs = if 76 ≤ 8 * bs.length then Spec.decodeT15 bs else err (.nomError .eof) := by
  unfold parseT15
  simp only [ais_take, ↓fun f => bind_of_spec f (parseStation_spec cfg bs 40)]
  refine ite_congr rfl (fun _ => ?_) (fun _ => rfl)
  rw [pushUnwrap_small cfg 2 [] _ (by simp)]
  simp only [Res.ok_bind, List.nil_append, parseSecondStation_spec]
  unfold Spec.decodeT15
  split
  · split <;> rfl
  · rfl

end AisVerif
