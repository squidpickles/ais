/-
  The whole of `messages::parse` as a specification-level function: `parseMessage = Spec.decode`.
-/
import AisVerif.Model.Messages
import AisVerif.Refine.A
import AisVerif.Refine.B

namespace AisVerif

/-- The per-type decoders (`<Type as AisMessageType>::parse`, model `parseAs`) are the arms of the dispatch. -/
theorem parseAs_eq_dispatch (cfg : Cfg) (t : Nat) (bs : List UInt8) : parseAs cfg t bs = Spec.dispatch cfg t bs := by
  unfold parseAs parseT04 parseT11 parseT07 parseT13
  simp only [parseT01_eq, parseBaseStation_eq, parseT09_eq, parseT05_eq, parseAckMsg_eq, parseT06_eq, parseT08_eq,
    parseT10_eq, parseT12_eq, parseT14_eq, parseT15_eq, parseT16_eq, parseT17_eq, parseT18_eq, parseT19_eq,
    parseT20_eq, parseT21_eq, parseT24_eq, parseT27_eq]
  rfl

theorem parseMessage_eq (cfg : Cfg) (bs : List UInt8) : parseMessage cfg bs = Spec.decode cfg bs := by
  rw [parseMessage_eq_parseAs,
    bind_of_spec (x := messageType bs) _ (take_bind bs 0 _ (by decide) (by decide))]
  simp only [parseAs_eq_dispatch]
  rfl

end AisVerif
