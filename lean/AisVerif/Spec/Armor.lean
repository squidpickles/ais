/-
  Armoring, the inverse of C03's unarmoring: six bits per character, most significant first.
-/
import AisVerif.Spec.Bits

namespace AisVerif
namespace Spec

/-- The armoring character of a 6-bit value: 0-39 ↦ '0'-'W', 40-63 ↦ '`'-'w'. -/
def armorChar (v : Nat) : UInt8 := if v < 40 then UInt8.ofNat (v + 48) else UInt8.ofNat (v + 56)

/-- Armor the first `nbits` bits of `bs` (bits beyond the end of `bs` read as 0): the payload
    characters and the fill-bit count. -/
def armor (bs : List UInt8) (nbits : Nat) : List UInt8 × Nat :=
  let nchars := (nbits + 5) / 6
  ((List.range nchars).map fun k => armorChar (field bs (6 * k) 6), 6 * nchars - nbits)

end Spec

end AisVerif
