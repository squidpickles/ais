/-
  Two small pieces of vocabulary the specification decoders share.
-/
import AisVerif.Model.Msg

namespace AisVerif

/-- The two-valued enumerations on a one-bit field. -/
def bitSym (a b : String) (v : Nat) : Val := if v = 0 then .sym a else .sym b

/-- The elements `elem bs q, elem bs (q+w), …` (n of them). -/
def elemsFrom {α : Type} (elem : List UInt8 → Nat → α) (bs : List UInt8) (w : Nat) (q : Nat) : Nat → List α
  | 0 => []
  | n + 1 => elem bs q :: elemsFrom elem bs w (q + w) n

end AisVerif
