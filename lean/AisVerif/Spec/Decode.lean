/-
  The specification of `messages::parse`: the dispatch on the first six bits over the per-type decoders of
  `Spec/DecodeA.lean` and `Spec/DecodeB.lean`, with the length each type needs and, without an allocator, the
  capacities.
-/
import AisVerif.Spec.DecodeB

namespace AisVerif.Spec

/-- The communication state the crate's `parse_radio` computes from the message type. -/
def radioOf (msgType : Nat) (v : Nat) : Option (List (Key × Val)) :=
  if msgType = 1 ∨ msgType = 2 ∨ msgType = 4 ∨ msgType = 11 ∨ msgType = 9 then some (sotdma v)
  else if msgType = 3 then some (itdma v)
  else none

def eof {α : Type} : Res α := err (.nomError .eof)

/-- Types with the communication state last (1-3, 4, 11, and 9 as the crate reads it): needs all bits up to the state's start to
    reach `parse_radio`, which rejects a foreign type value before reading anything. -/
def specRadioTail (mk : List (Key × Val) → Msg) (bs : List UInt8) (start total : Nat) : Res Msg :=
  if start ≤ 8 * bs.length then
    match radioOf (field bs 0 6) (field bs start 19) with
    | some r => if total ≤ 8 * bs.length then ok (mk r) else eof
    | none => err (.nomFailure .digit)
  else eof

def specT01 (bs : List UInt8) : Res Msg := specRadioTail (decodeT01 bs) bs 149 168
def specBase (kind : Kind) (bs : List UInt8) : Res Msg := specRadioTail (decodeBase kind bs) bs 149 168
/-- Type 9 as the crate reads it: state taken from bits 148-166 (finding D11). -/
def specT09 (bs : List UInt8) : Res Msg := specRadioTail (decodeT09 bs) bs 148 167

/-- Type 15 as the crate decodes it: a second station, after two spare bits, when at least 30 bits are left. -/
def decodeT15 (bs : List UInt8) : Res Msg :=
  if 8 * bs.length - (station bs 40).2 ≥ 30 then
    if (station bs 40).2 + 38 ≤ 8 * bs.length then
      ok (renderStations bs [(station bs 40).1, (station bs ((station bs 40).2 + 2)).1])
    else err (.nomError .eof)
  else ok (renderStations bs [(station bs 40).1])

def capped (cfg : Cfg) (n limit : Nat) (r : Res Msg) : Res Msg :=
  if cfg.isNoalloc && decide (limit < n) then err (.nomFailure .tooLarge) else r

/-- `messages::parse` on a payload whose first six bits read `t`. -/
def dispatch (cfg : Cfg) (t : Nat) (bs : List UInt8) : Res Msg :=
  let L := 8 * bs.length
  if 1 ≤ t ∧ t ≤ 3 then specT01 bs
  else if t = 4 then specBase .BaseStationReport bs
  else if t = 5 then (if 302 ≤ L then ok (decodeT05 bs) else eof)
  else if t = 7 then (if 72 ≤ L then ok (decodeAcks .BinaryAcknowledgeMessage bs) else eof)
  else if t = 6 then (if 88 ≤ L then capped cfg (bs.drop 11).length maxData (ok (decodeT06 bs)) else eof)
  else if t = 8 then (if 56 ≤ L then capped cfg (bs.drop 7).length maxData (ok (decodeT08 bs)) else eof)
  else if t = 9 then specT09 bs
  else if t = 10 then (if 72 ≤ L then ok (decodeT10 bs) else eof)
  else if t = 11 then specBase .UtcDateResponse bs
  else if t = 12 then (if 78 ≤ L then capped cfg ((L - 72) / 6) maxText (ok (decodeT12 bs)) else eof)
  else if t = 13 then (if 72 ≤ L then ok (decodeAcks .SafetyRelatedAcknowledgment bs) else eof)
  else if t = 14 then (if 46 ≤ L then capped cfg ((L - 40) / 6) maxText (ok (decodeT14 bs)) else eof)
  else if t = 15 then (if 76 ≤ L then decodeT15 bs else eof)
  else if t = 16 then (if 92 ≤ L then ok (decodeT16 bs (decide (144 ≤ L))) else eof)
  else if t = 17 then (if 120 ≤ L then capped cfg (bs.drop 15).length maxData (ok (decodeT17 bs)) else eof)
  else if t = 18 then (if 168 ≤ L then ok (decodeT18 bs) else eof)
  else if t = 19 then (if 312 ≤ L then ok (decodeT19 bs) else eof)
  else if t = 20 then (if 70 ≤ L then ok (decodeT20 bs) else eof)
  else if t = 21 then (if 272 ≤ L then ok (decodeT21 bs) else eof)
  else if t = 24 then
    (if 40 ≤ L then
      (if field bs 38 2 = 0 then (if 160 ≤ L then ok (decodeT24A bs) else eof)
       else if field bs 38 2 = 1 then (if 168 ≤ L then ok (decodeT24B bs) else eof)
       else ok (decodeT24U bs))
     else eof)
  else if t = 27 then (if 95 ≤ L then ok (decodeT27 bs) else eof)
  else err (.text .unimplementedType)

def decode (cfg : Cfg) (bs : List UInt8) : Res Msg :=
  if 6 ≤ 8 * bs.length then dispatch cfg (field bs 0 6) bs else eof

end AisVerif.Spec
