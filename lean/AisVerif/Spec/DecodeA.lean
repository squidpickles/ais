/-
  Specification decoders for the fixed-length position-type messages, written with the absolute
  bit offsets of ITU-R M.1371-5 (DESIGN.md Appendix A).  Value-level maps (sentinels, enumeration
  tables) are the ones the properties C10-C12 speak about; their own theorems are in Props/.
-/
import AisVerif.Spec.Bits
import AisVerif.Spec.Radio
import AisVerif.Model.Parsers
import AisVerif.Spec.Common
import AisVerif.Spec.Text

namespace AisVerif.Spec
open AisVerif

def accuracy (v : Nat) : Val := bitSym "Unaugmented" "Dgps" v
def dte (v : Nat) : Val := bitSym "Ready" "NotReady" v
def assigned (v : Nat) : Val := bitSym "Autonomous" "Assigned" v
def carrierSense (v : Nat) : Val := bitSym "Sotdma" "CarrierSense" v
def flag (v : Nat) : Val := .bool (v == 1)

/-- Types 1-3 (168 bits). -/
def decodeT01 (bs : List UInt8) (radio : List (Key × Val)) : Msg :=
  ⟨.PositionReport,
    [(.message_type, .nat (field bs 0 6)), (.repeat_indicator, .nat (field bs 6 2)), (.mmsi, .nat (field bs 8 30)),
     (.navigation_status, NavigationStatus.parse (field bs 38 4)), (.rate_of_turn, RateOfTurn.parse (field bs 42 8)),
     (.speed_over_ground, parseSpeedOverGround (field bs 50 10)), (.position_accuracy, accuracy (field bs 60 1)),
     (.longitude, parseLongitude (toSigned 28 (field bs 61 28))),
     (.latitude, parseLatitude (toSigned 27 (field bs 89 27))),
     (.course_over_ground, parseCog (field bs 116 12)), (.true_heading, parseHeading (field bs 128 9)),
     (.timestamp, .nat (field bs 137 6)), (.maneuver_indicator, ManeuverIndicator.parse (field bs 143 2)),
     (.raim, flag (field bs 148 1))] ++ radio⟩


/-- Types 4 and 11 (168 bits). -/
def decodeBase (kind : Kind) (bs : List UInt8) (radio : List (Key × Val)) : Msg :=
  ⟨kind,
    [(.message_type, .nat (field bs 0 6)), (.repeat_indicator, .nat (field bs 6 2)), (.mmsi, .nat (field bs 8 30)),
     (.year, optNe 0 (field bs 38 14)), (.month, optNe 0 (field bs 52 4)), (.day, optNe 0 (field bs 56 5)),
     (.hour, .nat (field bs 61 5)), (.minute, optNe 60 (field bs 66 6)), (.second, optNe 60 (field bs 72 6)),
     (.fix_quality, accuracy (field bs 78 1)),
     (.longitude, parseLongitude (toSigned 28 (field bs 79 28))),
     (.latitude, parseLatitude (toSigned 27 (field bs 107 27))),
     (.epfd_type, EpfdType.parse (field bs 134 4)), (.raim, flag (field bs 148 1))] ++ radio⟩

/-- Type 9 (168 bits), as the standard lays it out: the communication state is the last 19 bits
    (149-167), chosen by the selector bit 148. -/
def decodeT09Fields (bs : List UInt8) : List (Key × Val) :=
    [(.message_type, .nat (field bs 0 6)), (.repeat_indicator, .nat (field bs 6 2)), (.mmsi, .nat (field bs 8 30)),
     (.altitude, optNe 4095 (field bs 38 12)), (.speed_over_ground, f32Opt 1023 .ident (field bs 50 10)),
     (.position_accuracy, accuracy (field bs 60 1)),
     (.longitude, parseLongitude (toSigned 28 (field bs 61 28))),
     (.latitude, parseLatitude (toSigned 27 (field bs 89 27))),
     (.course_over_ground, parseCog (field bs 116 12)), (.timestamp, .nat (field bs 128 6)),
     (.dte, dte (field bs 142 1)), (.assigned_mode, assigned (field bs 146 1)), (.raim, flag (field bs 147 1))]

def decodeT09 (bs : List UInt8) (radio : List (Key × Val)) : Msg :=
  ⟨.StandardAircraftPositionReport, decodeT09Fields bs ++ radio⟩

/-- Type 10 (72 bits). -/
def decodeT10 (bs : List UInt8) : Msg :=
  ⟨.UtcDateInquiry,
    [(.message_type, .nat (field bs 0 6)), (.repeat_indicator, .nat (field bs 6 2)), (.mmsi, .nat (field bs 8 30)),
     (.dest_mmsi, .nat (field bs 40 30))]⟩

/-- Communication state of types 9 and 18: selector bit 148, state in bits 149-167. -/
def selRadio (bs : List UInt8) : List (Key × Val) :=
  if field bs 148 1 = 0 then sotdma (field bs 149 19) else itdma (field bs 149 19)

/-- Type 18 (168 bits). -/
def decodeT18 (bs : List UInt8) : Msg :=
  ⟨.StandardClassBPositionReport,
    [(.message_type, .nat (field bs 0 6)), (.repeat_indicator, .nat (field bs 6 2)), (.mmsi, .nat (field bs 8 30)),
     (.speed_over_ground, parseSpeedOverGround (field bs 46 10)), (.position_accuracy, accuracy (field bs 56 1)),
     (.longitude, parseLongitude (toSigned 28 (field bs 57 28))),
     (.latitude, parseLatitude (toSigned 27 (field bs 85 27))),
     (.course_over_ground, parseCog (field bs 112 12)), (.true_heading, parseHeading (field bs 124 9)),
     (.timestamp, .nat (field bs 133 6)), (.cs_unit, carrierSense (field bs 141 1)),
     (.has_display, flag (field bs 142 1)), (.has_dsc, flag (field bs 143 1)), (.whole_band, flag (field bs 144 1)),
     (.accepts_message_22, flag (field bs 145 1)), (.assigned_mode, assigned (field bs 146 1)),
     (.raim, flag (field bs 147 1))] ++ selRadio bs⟩

/-- Type 19 (312 bits). -/
def decodeT19 (bs : List UInt8) : Msg :=
  ⟨.ExtendedClassBPositionReport,
    [(.message_type, .nat (field bs 0 6)), (.repeat_indicator, .nat (field bs 6 2)), (.mmsi, .nat (field bs 8 30)),
     (.speed_over_ground, parseSpeedOverGround (field bs 46 10)), (.position_accuracy, accuracy (field bs 56 1)),
     (.longitude, parseLongitude (toSigned 28 (field bs 57 28))),
     (.latitude, parseLatitude (toSigned 27 (field bs 85 27))),
     (.course_over_ground, parseCog (field bs 112 12)), (.true_heading, parseHeading (field bs 124 9)),
     (.timestamp, .nat (field bs 133 6)), (.name, .text (trim (chars bs 143 20))),
     (.type_of_ship_and_cargo, ShipType.parse (field bs 263 8)),
     (.dimension_to_bow, .nat (field bs 271 9)), (.dimension_to_stern, .nat (field bs 280 9)),
     (.dimension_to_port, .nat (field bs 289 6)), (.dimension_to_starboard, .nat (field bs 295 6)),
     (.epfd_type, EpfdType.parse (field bs 301 4)), (.raim, flag (field bs 305 1)), (.dte, dte (field bs 306 1)),
     (.assigned_mode, assigned (field bs 307 1))]⟩

/-- Type 21 (272 bits; the optional name extension is not decoded by the crate). -/
def decodeT21 (bs : List UInt8) : Msg :=
  ⟨.AidToNavigationReport,
    [(.message_type, .nat (field bs 0 6)), (.repeat_indicator, .nat (field bs 6 2)), (.mmsi, .nat (field bs 8 30)),
     (.aid_type, NavaidType.parse (field bs 38 5)), (.name, .text (trim (chars bs 43 20))),
     (.accuracy, accuracy (field bs 163 1)),
     (.longitude, parseLongitude (toSigned 28 (field bs 164 28))),
     (.latitude, parseLatitude (toSigned 27 (field bs 192 27))),
     (.dimension_to_bow, .nat (field bs 219 9)), (.dimension_to_stern, .nat (field bs 228 9)),
     (.dimension_to_port, .nat (field bs 237 6)), (.dimension_to_starboard, .nat (field bs 243 6)),
     (.epfd_type, EpfdType.parse (field bs 249 4)), (.utc_second, .nat (field bs 253 6)),
     (.off_position, flag (field bs 259 1)), (.regional_reserved, .nat (field bs 260 8)),
     (.raim, flag (field bs 268 1)), (.virtual_aid, flag (field bs 269 1)), (.assigned_mode, flag (field bs 270 1))]⟩

/-- Type 27 (96 bits): 1/10-minute coordinates with their own 'not available' codes. The scaling
    operation is the code's `(raw/600000)*1000` when the type bits read 27. -/
def decodeT27 (bs : List UInt8) : Msg :=
  let op : FOp := if field bs 0 6 = 27 then .div600000mul1000 else .div600000
  ⟨.LongRangeAisBroadcastMessage,
    [(.message_type, .nat (field bs 0 6)), (.repeat_indicator, .nat (field bs 6 2)), (.mmsi, .nat (field bs 8 30)),
     (.position_accuracy, accuracy (field bs 38 1)), (.raim, flag (field bs 39 1)),
     (.navigation_status, NavigationStatus.parse (field bs 40 4)),
     (.longitude, f32Opt 108600 op (toSigned 18 (field bs 44 18))),
     (.latitude, f32Opt 54600 op (toSigned 17 (field bs 62 17))),
     (.speed_over_ground, f32Opt 63 .ident (field bs 79 6)), (.course_over_ground, f32Opt 511 .ident (field bs 85 9)),
     (.gnss_position_status, flag (field bs 94 1))]⟩

end AisVerif.Spec
