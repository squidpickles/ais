/-
  Specification decoders for the variable-length messages (absolute offsets, DESIGN.md Appendix A).
  `L = 8 * bs.length` is the number of bits present.
-/
import AisVerif.Spec.DecodeA
import AisVerif.Model.MsgB

namespace AisVerif.Spec
open AisVerif

def hdr (bs : List UInt8) : List (Key × Val) :=
  [(.message_type, .nat (field bs 0 6)), (.repeat_indicator, .nat (field bs 6 2)), (.mmsi, .nat (field bs 8 30))]

/-- Type 6: 88-bit header, then the binary payload (whole bytes from byte 11). -/
def decodeT06 (bs : List UInt8) : Msg :=
  ⟨.BinaryAddressedMessage, hdr bs ++
    [(.seqno, .nat (field bs 38 2)), (.dest_mmsi, .nat (field bs 40 30)), (.retransmit, flag (field bs 70 1)),
     (.dac, .nat (field bs 72 10)), (.fid, .nat (field bs 82 6)), (.data, .bytes (bs.drop 11))]⟩

/-- Type 8: 56-bit header, payload from byte 7. -/
def decodeT08 (bs : List UInt8) : Msg :=
  ⟨.BinaryBroadcastMessage, hdr bs ++
    [(.dac, .nat (field bs 40 10)), (.fid, .nat (field bs 50 6)), (.data, .bytes (bs.drop 7))]⟩

/-- Type 17: 80-bit header, 40-bit DGNSS header, correction data from byte 15. -/
def decodeT17 (bs : List UInt8) : Msg :=
  ⟨.DgnssBroadcastBinaryMessage, hdr bs ++
    [(.longitude, f32Opt 108600 .div600 (toSigned 18 (field bs 40 18))),
     (.latitude, f32Opt 54600 .div600 (toSigned 17 (field bs 58 17))),
     (.p_message_type, .nat (field bs 80 6)), (.station_id, .nat (field bs 86 10)),
     (.z_count, .nat (field bs 96 13)), (.sequence_number, .nat (field bs 109 3)), (.n, .nat (field bs 112 5)),
     (.health, .nat (field bs 117 3)), (.data, .bytes (bs.drop 15))]⟩

/-- Type 12: text of `(L - 72) / 6` characters from bit 72. -/
def decodeT12 (bs : List UInt8) : Msg :=
  ⟨.AddressedSafetyRelatedMessage, hdr bs ++
    [(.seqno, .nat (field bs 38 2)), (.dest_mmsi, .nat (field bs 40 30)), (.retransmit, flag (field bs 70 1)),
     (.text, .text (trim (chars bs 72 ((8 * bs.length - 72) / 6))))]⟩

/-- Type 14: text of `(L - 40) / 6` characters from bit 40. -/
def decodeT14 (bs : List UInt8) : Msg :=
  ⟨.SafetyRelatedBroadcastMessage, hdr bs ++ [(.text, .text (trim (chars bs 40 ((8 * bs.length - 40) / 6))))]⟩

/-- Type 16 with one or two assignments. -/
def decodeT16 (bs : List UInt8) (two : Bool) : Msg :=
  ⟨.AssignmentModeCommand, hdr bs ++
    [(.mmsi1, .nat (field bs 40 30)), (.offset1, .nat (field bs 70 12)), (.increment1, .nat (field bs 82 10))] ++
    (if two then [(.mmsi2, .nat (field bs 92 30)), (.offset2, .nat (field bs 122 12)), (.increment2, .nat (field bs 134 10))]
     else [(.mmsi2, .none), (.offset2, .none), (.increment2, .none)])⟩

/-- One acknowledgement (types 7, 13): MMSI (30) and sequence number (2) at bit `q`. -/
def ackAt (bs : List UInt8) (q : Nat) : List (Key × Val) :=
  [(.acks_mmsi, .nat (field bs q 30)), (.acks_seq_num, .nat (field bs (q + 30) 2))]

/-- Types 7 and 13: `min 4 ((L - 40) / 32)` acknowledgements at 40, 72, 104, 136. -/
def decodeAcks (kind : Kind) (bs : List UInt8) : Msg :=
  ⟨kind, hdr bs ++ flattenList (elemsFrom ackAt bs 32 40 (min 4 ((8 * bs.length - 40) / 32)))⟩

/-- One slot reservation (type 20) at bit `q`: offset 12, slots 4, time-out 3, increment 11. -/
def reservationAt (bs : List UInt8) (q : Nat) : List (Key × Val) :=
  [(.res_offset, .nat (field bs q 12)), (.res_num_slots, .nat (field bs (q + 12) 4)),
   (.res_timeout, .nat (field bs (q + 16) 3)), (.res_increment, .nat (field bs (q + 19) 11))]

/-- Type 20: `min 4 ((L - 40) / 30)` reservations at 40, 70, 100, 130. -/
def decodeT20 (bs : List UInt8) : Msg :=
  ⟨.DataLinkManagementMessage, hdr bs ++ flattenList (elemsFrom reservationAt bs 30 40 (min 4 ((8 * bs.length - 40) / 30)))⟩

/-- Type 24 part A (160 or 168 bits): name at 40. -/
def decodeT24A (bs : List UInt8) : Msg :=
  ⟨.StaticDataReport, hdr bs ++ [(.part, .sym "PartA"), (.vessel_name, .text (trim (chars bs 40 20)))]⟩

/-- Type 24 part B (168 bits). `model_serial` is the crate's extra reading of bits 66-89 as 4 characters. -/
def decodeT24B (bs : List UInt8) : Msg :=
  ⟨.StaticDataReport, hdr bs ++
    [(.part, .sym "PartB"), (.ship_type, ShipType.parse (field bs 40 8)),
     (.vendor_id, .text (trim (chars bs 48 3))), (.model_serial, .text (trim (chars bs 66 4))),
     (.unit_model_code, .nat (field bs 66 4)), (.serial_number, .nat (field bs 70 20)),
     (.callsign, .text (trim (chars bs 90 7))), (.dimension_to_bow, .nat (field bs 132 9)),
     (.dimension_to_stern, .nat (field bs 141 9)), (.dimension_to_port, .nat (field bs 150 6)),
     (.dimension_to_starboard, .nat (field bs 156 6))]⟩

/-- Type 24 with part number 2 or 3. -/
def decodeT24U (bs : List UInt8) : Msg :=
  ⟨.StaticDataReport, hdr bs ++ [(.part, .symN "Unknown" (field bs 38 2))]⟩

/-- Number of destination characters present in a (possibly truncated) type 5. -/
def t5DestChars (bs : List UInt8) : Nat := min 120 (8 * bs.length - 302) / 6

/-- Type 5 as the crate decodes it: everything up to the draught at the standard offsets; the
    destination has as many complete characters as are present (at most 20); the DTE is the first
    bit after the destination characters that were read, when there is one. For a full 424-bit
    message that is bit 422, as specified. -/
def decodeT05 (bs : List UInt8) : Msg :=
  let k := t5DestChars bs
  ⟨.StaticAndVoyageRelatedData, hdr bs ++
    [(.ais_version, .nat (field bs 38 2)), (.imo_number, .nat (field bs 40 30)),
     (.callsign, .text (trim (chars bs 70 7))), (.vessel_name, .text (trim (chars bs 112 20))),
     (.ship_type, ShipType.parse (field bs 232 8)), (.dimension_to_bow, .nat (field bs 240 9)),
     (.dimension_to_stern, .nat (field bs 249 9)), (.dimension_to_port, .nat (field bs 258 6)),
     (.dimension_to_starboard, .nat (field bs 264 6)), (.epfd_type, EpfdType.parse (field bs 270 4)),
     (.eta_month_utc, optNe 0 (field bs 274 4)), (.eta_day_utc, optNe 0 (field bs 278 5)),
     (.eta_hour_utc, .nat (field bs 283 5)), (.eta_minute_utc, optNe 60 (field bs 288 6)),
     (.draught, .f32 (field bs 294 8) .div10), (.destination, .text (trim (chars bs 302 k))),
     (.dte, if 302 + 6 * k < 8 * bs.length then dte (field bs (302 + 6 * k) 1) else .sym "NotReady")]⟩

/-! ### Type 15 (interrogation)

The standard's layout (Appendix A): station 1 MMSI@40, request 1 (type@70, offset@76), spare@88,
request 2 (type@90, offset@96), spare@108, station 2 MMSI@110, request (type@140, offset@146), spare@158.
The crate decides what is present from the number of remaining bits; `interMsg`/`station` below
give, for a payload of `L` bits, the absolute positions it reads. -/

/-- One request starting at bit `q` (its 6 type bits are present): the 12-bit slot offset is read
    when at least 12 more bits remain. Returns the fields and the position after the request. -/
def interMsg (bs : List UInt8) (q : Nat) : List (Key × Val) × Nat :=
  if 8 * bs.length - (q + 6) ≥ 12 then
    ([(.messages_type, .nat (field bs q 6)), (.messages_slot_offset, optNe 0 (field bs (q + 6) 12))], q + 18)
  else ([(.messages_type, .nat (field bs q 6)), (.messages_slot_offset, .none)], q + 6)

def emptyRequest : List (Key × Val) := [(.messages_type, .nat 0), (.messages_slot_offset, .none)]

def renderStation (bs : List UInt8) (q : Nat) (msgs : List (List (Key × Val))) : List (Key × Val) :=
  (.stations_mmsi, .nat (field bs q 30)) :: (.messages_count, .nat msgs.length) ::
    (msgs.zipIdx.flatMap fun (rec, i) => rec.map fun (k, v) => (Key.idx k i, v))

/-- A station starting at bit `q` (MMSI and first request type present): fields and end position. -/
def station (bs : List UInt8) (q : Nat) : List (Key × Val) × Nat :=
  let m1 := interMsg bs (q + 30)
  if 8 * bs.length - m1.2 ≥ 8 then
    let m2 := interMsg bs (m1.2 + 2)
    (renderStation bs q (if m2.1 ≠ emptyRequest then [m1.1, m2.1] else [m1.1]), m2.2)
  else (renderStation bs q [m1.1], m1.2)

def renderStations (bs : List UInt8) (sts : List (List (Key × Val))) : Msg :=
  ⟨.Interrogation, hdr bs ++ [(.stations_count, .nat sts.length)] ++
    (sts.zipIdx.flatMap fun (rec, i) => rec.map fun (k, v) => (Key.idx k i, v))⟩

end AisVerif.Spec
