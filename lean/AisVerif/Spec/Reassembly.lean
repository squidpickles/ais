/-
  The abstract reassembly automaton of C06: at most one open group (sequence id, number of the
  last accepted fragment, the accepted fragments' payloads in order).
-/

namespace AisVerif.Spec

structure Group where
  id : Option Nat
  last : Nat
  parts : List (List UInt8)
  deriving Repr, DecidableEq

inductive Outcome
  | incomplete
  | complete (data : List UInt8)
  | reject
  deriving Repr, DecidableEq

/-- `cap = some n`: the reassembled payload may hold at most `n` bytes (no-alloc build). -/
def fits (cap : Option Nat) (n : Nat) : Prop := match cap with | none => True | some c => n ≤ c

instance (cap : Option Nat) (n : Nat) : Decidable (fits cap n) := by
  unfold fits; cases cap <;> exact inferInstance

/-- One validly numbered sentence (fragment `fn` of `nf`, sequence id `id`, payload `data`). -/
def gstep (cap : Option Nat) (g : Option Group) (nf fn : Nat) (id : Option Nat) (data : List UInt8) :
    Option Group × Outcome :=
  if fn < nf then
    if fn = 1 then (some ⟨id, 1, [data]⟩, .incomplete)          -- opens a group (discarding any open one)
    else match g with
      | some o =>
        if o.id = id ∧ o.last + 1 = fn ∧ fits cap (o.parts.flatten.length + data.length) then
          (some ⟨id, fn, o.parts ++ [data]⟩, .incomplete)         -- directly continues the open group
        else (g, .reject)
      | none => (g, .reject)
  else if nf = 1 then (g, .complete data)                          -- unfragmented: no effect on the group
  else match g with
    | some o =>
      if o.id = id ∧ o.last + 1 = fn ∧ fits cap (o.parts.flatten.length + data.length) then
        (none, .complete (o.parts ++ [data]).flatten)              -- last fragment: deliver and close
      else (g, .reject)
    | none => (g, .reject)

end AisVerif.Spec
